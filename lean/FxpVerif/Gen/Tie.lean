import FxpVerif.Gen.Sizing
import FxpVerif.Model.Carrier
import FxpVerif.Props.C07
import FxpVerif.Props.C09
import FxpVerif.Props.C15
import FxpVerif.Props.C19
import FxpVerif.Props.C18
import FxpVerif.Props.C20
import FxpVerif.Props.C03
import FxpVerif.Model.Resize
import FxpVerif.Model.Infer
/-!
# Source tie: the definitions generated from `fxpmath/functions.py`, `objects.py` and `utils.py` are the rules the theorems speak about

`FxpVerif/Gen/Sizing.lean` is *generated* from the Python source by `harness/srcgen.py` on every run of a check
(the committed copy is the translation of the validated tree; when the current source translates to a different
text, this file is re-checked against the new text with `lake env lean`).  Each theorem below is a proof
obligation about the generated definitions:

* `*_size`   — the generated `optimal_size` of an operator *is* the model's growth rule (`optimalSize`, `sumFmt`,
               `prodFmt`, `dotFmt`), so every theorem of C07 / C09 / C15 about the model's format is a theorem about
               the format the source computes;
* `sizing_*` — the generated `_get_sizing` policies are the model's `sizing` (C08);
* `needs_pyint`, `mul_needs_pyint` — the generated carrier rule is *at least as cautious* as the rule proved safe in
               `Props/C19.lean` (a more cautious rule is still safe: Python integers are exact), so
               `add_path_exact` / `mul_path_exact` transfer (`path_exact_of_cautious`, `*_path_exact_src`).

The sections after these: the exact scale-down route, the limits and helpers of `objects.py`, the elementwise kernels of
`utils.py`, the size resolution of `resize` and of the constructor (one obligation per pattern of given arguments), the
overflow action and the rounding tables, the "never overflows" theorems restated about the generated rules, and the carrier
selection of dot / matmul / prod.

The proofs are deliberately a tactic cascade that does not depend on the exact shape of the generated terms, so a
harmless rewrite of the Python rule (reordered sum, `1 + max(..)`, a renamed local) still proves.
-/
namespace Fxp.Gen.Tie

/-- the 4-tuple `(signed, n_word, n_int, n_frac)` the Python code builds from a `(signed, n_int, n_frac)` rule. -/
def sz (t : Bool × Int × Int) : Bool × Int × Int × Int := (t.1, bsig t.1 + t.2.1 + t.2.2, t.2.1, t.2.2)

/-- the 4-tuple of a model format. -/
def fmtT (g : Fmt) : Bool × Int × Int × Int := (g.signed, (g.nword : Int), g.nint, g.nfrac)

/-- one component of `generated tuple = model tuple`: case split on the sign bit, linear arithmetic — the direct route first,
then more forgiving ones for a rule the source writes differently. -/
macro "tie_comp" : tactic => `(tactic|
  first
  | rfl
  | (simp only [bsig, Fmt.nint, Int.toNat_natCast, Nat.cast_add, Nat.cast_mul] <;> (try split) <;> omega)
  | (simp only [bsig, Fmt.nint] <;> (repeat' split) <;> simp_all <;> omega)
  | (simp only [bsig, Fmt.nint] <;> (repeat' split) <;> omega)
  | (simp [bsig, Fmt.nint] <;> omega)
  | (simp [bsig, Fmt.nint]; done)
  | (simp [bsig, Fmt.nint, Bool.or_comm, Bool.and_comm, Bool.or_assoc, Bool.and_assoc]; done)
  | (grind [bsig, Fmt.nint]))

/-- closes `generated tuple = model tuple` goals componentwise. -/
macro "tie_tac" : tactic => `(tactic|
  (intros
   first
   | rfl
   | (refine Prod.ext ?_ (Prod.ext ?_ (Prod.ext ?_ ?_)) <;> tie_comp)))

theorem add_size (x y : Fmt) :
    Gen.addSize x.signed x.nword x.nint x.nfrac y.signed y.nword y.nint y.nfrac = sz (optimalSize .add x y) := by
  unfold Gen.addSize sz optimalSize; tie_tac

theorem sub_size (x y : Fmt) :
    Gen.subSize x.signed x.nword x.nint x.nfrac y.signed y.nword y.nint y.nfrac = sz (optimalSize .sub x y) := by
  unfold Gen.subSize sz optimalSize; tie_tac

theorem mul_size (x y : Fmt) :
    Gen.mulSize x.signed x.nword x.nint x.nfrac y.signed y.nword y.nint y.nfrac = sz (optimalSize .mul x y) := by
  unfold Gen.mulSize sz optimalSize; tie_tac

theorem floordiv_size (x y : Fmt) :
    Gen.floordivSize x.signed x.nword x.nint x.nfrac y.signed y.nword y.nint y.nfrac = sz (optimalSize .floordiv x y) := by
  unfold Gen.floordivSize sz optimalSize; tie_tac

theorem truediv_size (x y : Fmt) :
    Gen.truedivSize x.signed x.nword x.nint x.nfrac y.signed y.nword y.nint y.nfrac = sz (optimalSize .truediv x y) := by
  unfold Gen.truedivSize sz optimalSize; tie_tac

theorem mod_size (x y : Fmt) :
    Gen.modSize x.signed x.nword x.nint x.nfrac y.signed y.nword y.nint y.nfrac = sz (optimalSize .mod x y) := by
  unfold Gen.modSize sz optimalSize; tie_tac

theorem sum_size (f : Fmt) (k : Nat) :
    Gen.sumSize f.signed f.nword f.nint f.nfrac k = fmtT (sumFmt f k) := by
  unfold Gen.sumSize fmtT sumFmt; tie_tac

theorem cumsum_size (f : Fmt) (k : Nat) :
    Gen.cumsumSize f.signed f.nword f.nint f.nfrac k = fmtT (sumFmt f k) := by
  unfold Gen.cumsumSize fmtT sumFmt; tie_tac

theorem trace_size (f : Fmt) (k : Nat) :
    Gen.traceSize f.signed f.nword f.nint f.nfrac k = fmtT (sumFmt f k) := by
  unfold Gen.traceSize fmtT sumFmt; tie_tac

theorem prod_size (f : Fmt) (k : Nat) :
    Gen.prodSize f.signed f.nword f.nint f.nfrac k = fmtT (prodFmt f k) := by
  unfold Gen.prodSize fmtT prodFmt; tie_tac

theorem cumprod_word_nonneg (f : Fmt) (k : Nat) (hk : 1 ≤ k) :
    0 ≤ max ((f.nword : Int) + cumprodFrac f k - f.nfrac) ((k : Int) * f.nword + cumprodFrac f k - k * f.nfrac) := by
  have h1 := C15.cumprod_shift_nonneg f k 1 le_rfl hk
  have h2 := C15.cumprod_word_ge f k 1 le_rfl hk
  omega

theorem cumprod_size (f : Fmt) (k : Nat) (hk : 1 ≤ k) :
    Gen.cumprodSize f.signed f.nword f.nint f.nfrac k = fmtT (cumprodFmt f k) := by
  have h0 := cumprod_word_nonneg f k hk
  unfold Gen.cumprodSize fmtT cumprodFmt
  have hF : (if decide (f.nfrac ≥ 0) = true then (k : Int) * f.nfrac else f.nfrac) = cumprodFrac f k := by
    unfold cumprodFrac; simp
  -- `<;>` and not `;`: for a rule written in the model's own order this `simp only` already closes the goal
  simp only [hF, Fmt.nint, Int.toNat_of_nonneg h0] <;>
    refine Prod.ext rfl (Prod.ext ?_ (Prod.ext ?_ rfl)) <;> dsimp only <;> first | rfl | omega | (simp <;> ring_nf)

theorem dot_size (x y : Fmt) (k : Nat) :
    Gen.dotSize x.signed x.nword x.nint x.nfrac y.signed y.nword y.nint y.nfrac k = fmtT (dotFmt x y k) := by
  unfold Gen.dotSize fmtT dotFmt; tie_tac

theorem sizing_same (op : BinOp) (x y : Fmt) :
    Gen.getSizing_same x.signed x.nword x.nint x.nfrac y.signed y.nword y.nint y.nfrac = sz (sizing .same op x y) := by
  unfold Gen.getSizing_same sz sizing; tie_tac

theorem sizing_largest (op : BinOp) (x y : Fmt) :
    Gen.getSizing_largest x.signed x.nword x.nint x.nfrac y.signed y.nword y.nint y.nfrac = sz (sizing .largest op x y) := by
  unfold Gen.getSizing_largest sz sizing; tie_tac

theorem sizing_smallest (op : BinOp) (x y : Fmt) :
    Gen.getSizing_smallest x.signed x.nword x.nint x.nfrac y.signed y.nword y.nint y.nfrac = sz (sizing .smallest op x y) := by
  unfold Gen.getSizing_smallest sz sizing; tie_tac

/-- `sizing='optimal'` hands the operator's own rule through (signed, n_int, n_frac; the word is recomputed). -/
theorem sizing_optimal (x y : Fmt) (s : Bool) (w i f : Int) :
    Gen.getSizing_optimal x.signed x.nword x.nint x.nfrac y.signed y.nword y.nint y.nfrac s w i f = sz (s, i, f) := by
  unfold Gen.getSizing_optimal sz; tie_tac

/-- the generated carrier rule of add/sub/mod is at least as cautious as the rule proved safe in C19. -/
theorem needs_pyint (x y : Fmt) (F : Int) (h : addNeedsPyInt x y F = true) :
    Gen.needsPyInt x.signed x.nword x.nint x.nfrac y.signed y.nword y.nint y.nfrac F = true := by
  unfold addNeedsPyInt addBits at h
  unfold Gen.needsPyInt
  first
  | (simp only [Bool.or_eq_true, Bool.and_eq_true, decide_eq_true_eq] at h ⊢; omega)  -- the sign test, written alike, is an atom
  | (cases hx : x.signed <;> cases hy : y.signed <;> simp_all <;> omega)

/-- the generated carrier rule of mul is at least as cautious as the rule proved safe in C19. -/
theorem mul_needs_pyint (x y : Fmt) (F : Int) (h : _root_.Fxp.mulNeedsPyInt x y F = true) :
    Gen.mulNeedsPyInt x.signed x.nword x.nint x.nfrac y.signed y.nword y.nint y.nfrac F = true := by
  unfold _root_.Fxp.mulNeedsPyInt mulBits at h
  unfold Gen.mulNeedsPyInt
  first
  | (simp only [Bool.or_eq_true, Bool.and_eq_true, decide_eq_true_eq] at h ⊢; omega)
  | (cases hx : x.signed <;> cases hy : y.signed <;> simp_all <;> omega)

/-! ## the exact scale-down route (a result landing in a format with fewer fraction bits than the exact result has)

The source scales the exact integer result down either as an exact rational (`_scale_down_exact`, rounded exactly by
`_round`) or by the float `2^-k`.  The float route is harmless exactly when the integer it scales is one a double holds
(`|p| ≤ 2^53`; a multiplication by a power of two is then exact and `_round` sees the exact value).  These obligations say that
whenever the source's own test sends a bit-dropping operation down the float route, every pair of in-range operand codes
gives such an integer — so C03's register statements (`C03.register_drop`) and C08's imposed formats hold on both routes. -/

/-- mul: the float route is taken with dropped bits only when the exact product of in-range codes is at most `2^53`. -/
theorem mul_exact_path (x y : Fmt) (F : Int) (hF : F < x.nfrac + y.nfrac)
    (h : Gen.mulExactPath x.signed x.nword x.nint x.nfrac y.signed y.nword y.nint y.nfrac F = false)
    (a b : Int) (ha : x.InRange a) (hb : y.InRange b) : |a * b| ≤ 2 ^ 53 := by
  unfold Gen.mulExactPath at h
  simp only [Bool.and_eq_false_iff, decide_eq_false_iff_not] at h
  exact abs_mul_le_of_inRange ha hb (by rcases h with h | h <;> omega)

/-- add: the float route is taken with dropped bits only when the exact aligned sum of in-range codes is at most `2^53`. -/
theorem add_exact_path (x y : Fmt) (F : Int) (hF : F < max x.nfrac y.nfrac)
    (h : Gen.addExactPath x.signed x.nword x.nint x.nfrac y.signed y.nword y.nint y.nfrac F = false)
    (a b : Int) (ha : x.InRange a) (hb : y.InRange b) :
    |a * 2 ^ (max x.nfrac y.nfrac - x.nfrac).toNat + b * 2 ^ (max x.nfrac y.nfrac - y.nfrac).toNat| ≤ 2 ^ 53 := by
  unfold Gen.addExactPath at h
  simp only [Bool.and_eq_false_iff, decide_eq_false_iff_not] at h
  obtain ⟨hA, hB⟩ := C19.aligned_abs_le x y (max x.nfrac y.nfrac) a b ha hb 52
    (by rw [C19.addBits_max]; rcases h with h | h <;> omega)
  exact (abs_add_le ..).trans (by linarith)

/-- sub: likewise for the exact aligned difference. -/
theorem sub_exact_path (x y : Fmt) (F : Int) (hF : F < max x.nfrac y.nfrac)
    (h : Gen.subExactPath x.signed x.nword x.nint x.nfrac y.signed y.nword y.nint y.nfrac F = false)
    (a b : Int) (ha : x.InRange a) (hb : y.InRange b) :
    |a * 2 ^ (max x.nfrac y.nfrac - x.nfrac).toNat - b * 2 ^ (max x.nfrac y.nfrac - y.nfrac).toNat| ≤ 2 ^ 53 := by
  unfold Gen.subExactPath at h
  simp only [Bool.and_eq_false_iff, decide_eq_false_iff_not] at h
  obtain ⟨hA, hB⟩ := C19.aligned_abs_le x y (max x.nfrac y.nfrac) a b ha hb 52
    (by rw [C19.addBits_max]; rcases h with h | h <;> omega)
  exact (abs_sub ..).trans (by linarith)

/-- `x // y` (D50) aligns both operands to fraction length 0 — a code with a negative fraction length is multiplied by `2^-n_frac` —
under the carrier rule of add/sub/mod evaluated at `n_frac = 0`: whenever that rule keeps the 64-bit integer types, the aligned code
of every in-range operand code fits them (`≤ 2^61`), for the dividend and for the divisor alike. -/
theorem floordiv_align_fits (x y : Fmt)
    (h : Gen.needsPyInt x.signed x.nword x.nint x.nfrac y.signed y.nword y.nint y.nfrac 0 = false)
    (a b : Int) (ha : x.InRange a) (hb : y.InRange b) :
    |a * 2 ^ (-x.nfrac).toNat| ≤ 2 ^ 61 ∧ |b * 2 ^ (-y.nfrac).toNat| ≤ 2 ^ 61 := by
  unfold Gen.needsPyInt at h
  simp only [Bool.or_eq_false_iff, Bool.and_eq_false_iff, decide_eq_false_iff_not] at h
  obtain ⟨⟨_, h63⟩, _⟩ := h
  exact ⟨abs_shl_le (abs_le_of_inRange ha) (by omega), abs_shl_le (abs_le_of_inRange hb) (by omega)⟩

/-! ## Rules of `fxpmath/objects.py` -/

/-- for a source that writes the exponent of `2 ** (n_word - 1)` in integers; on the committed text `simp` does not need it. -/
theorem toNat_pred (n : Nat) : ((n : Int) - 1).toNat = n - 1 := by omega

/-- the limits every store clamps / wraps to (`set_val`) are the model's `hi` / `lo`. -/
theorem store_limits (f : Fmt) : Gen.storeLimits f.signed f.nword f.nint f.nfrac = (f.hi, f.lo) := by
  unfold Gen.storeLimits Fmt.hi Fmt.lo
  refine Prod.ext ?_ ?_ <;> cases f.signed <;> simp [toNat_pred] <;> omega

/-- the limits `resize` reports (as `upper` / `lower`, after scaling by `2^-n_frac`) are the model's `hi` / `lo`. -/
theorem resize_limits (f : Fmt) : Gen.resizeLimits f.signed f.nword f.nint f.nfrac = (f.hi, f.lo) := by
  unfold Gen.resizeLimits Fmt.hi Fmt.lo
  refine Prod.ext ?_ ?_ <;> cases f.signed <;> simp [toNat_pred] <;> omega

/-- `n_int = n_word - n_frac - sign bit`. -/
theorem nint_of (f : Fmt) : Gen.nintOf f.signed f.nword f.nint f.nfrac = f.nint := by
  unfold Gen.nintOf Fmt.nint; cases f.signed <;> simp <;> omega

/-- the extended-precision indicator is raised exactly for words of 64 bits and more (C18 `ext_flag_iff`). -/
theorem extended_prec (f : Fmt) : Gen.extendedPrec f.signed f.nword f.nint f.nfrac = C18.extFlag f := by
  unfold Gen.extendedPrec C18.extFlag; simp

/-- expand-mode `>>`: the fraction grows by the number of bits that would be lost (the `e` of `rshiftExpand`). -/
theorem rshift_expansion (cs : List Int) (n : Nat) :
    (match minPow2 cs with
     | some t => Gen.rshiftExpansion n t true
     | none => Gen.rshiftExpansion n 0 false) =
    ((match minPow2 cs with
      | some t => if t < n then n - t else 0
      | none => 0 : Nat) : Int) := by
  unfold Gen.rshiftExpansion
  cases minPow2 cs with
  | none => simp
  | some t => simp only []; split <;> simp_all <;> omega

/-- expand-mode `<<`: the word grows to `max(n_word, largest bit length + sign bit + n)` (the `w` of `lshiftExpand`). -/
theorem lshift_word (f : Fmt) (cs : List Int) (n : Nat) :
    Gen.lshiftWord f.signed f.nword f.nint f.nfrac (maxInt (cs.map bitlen)) n =
      max (f.nword : Int) (maxInt (cs.map bitlen) + lshiftExpand.bsigI f.signed + n) := by
  unfold Gen.lshiftWord lshiftExpand.bsigI; cases f.signed <;> simp


/-- the strings the `Config.rounding` setter accepts are exactly the five rounding rules of the model (C20: anything else is rejected). -/
theorem valid_rounding (s : String) : Gen.valid_rounding s = C20.validRounding s := by
  unfold Gen.valid_rounding C20.validRounding
  simp only [List.mem_cons, List.mem_nil_iff, or_false, List.elem_eq_mem, decide_eq_decide]
  constructor <;> (intro h; rcases h with h | h | h | h | h <;> simp [h])

/-- the strings the `Config.overflow` setter accepts are exactly the two overflow rules of the model. -/
theorem valid_overflow (s : String) : Gen.valid_overflow s = C20.validOverflow s := by
  unfold Gen.valid_overflow C20.validOverflow
  simp only [List.mem_cons, List.mem_nil_iff, or_false, List.elem_eq_mem, decide_eq_decide]


/-! ## Elementwise kernels of `fxpmath/utils.py` -/

/-- `utils.wrap` as written (mask with `&`, sign-extend with `|`) is the model's `wrap` — for every word length and every integer. -/
theorem wrap_elem (f : Fmt) (k : Int) : Gen.wrapElem f.signed f.nword k = wrap f k := by
  rw [← C03.wrapBits_eq_wrap]
  unfold Gen.wrapElem C03.wrapBits
  first
  | (simp [toNat_pred]; done)
  | (cases f.signed <;> simp [toNat_pred])

/-- `utils.clip` is the model's `sat` (`max(val_min, min(val_max, x))`) when called with the format's limits. -/
theorem clip_elem (f : Fmt) (k : Int) : Gen.clipElem k f.lo f.hi = sat f k := by
  unfold Gen.clipElem sat
  first
  | rfl
  | (simp; done)
  | omega

theorem int_clip_elem (f : Fmt) (k : Int) : Gen.intClipElem k f.lo f.hi = sat f k := by
  unfold Gen.intClipElem sat
  first
  | rfl
  | (simp; done)
  | omega


/-! ## Size resolution of `Fxp.resize`: one generated definition per pattern of given arguments, each equal to the model's `resizeMeta` -/

/-- the tuple `(signed, n_word, n_frac, n_int)` the generated `resizeSizes_*` return (`n_frac` before `n_int`, unlike `fmtT`), as the
model's size attributes. -/
def metaOf (t : Bool × Int × Int × Int) : Meta := ⟨t.1, t.2.1, t.2.2.1, t.2.2.2⟩

macro "resize_tac" : tactic => `(tactic|
  (simp only [resizeMeta, resolveNInt, storeSizes, signBit, metaOf, Option.getD, Option.isSome, Bool.or_false, Bool.false_or,
              Bool.false_eq_true, if_false, Option.some.injEq, Meta.mk.injEq] <;>
   first
   | (refine ⟨?_, ?_, ?_, ?_⟩ <;> first | rfl | omega | (simp; done) | (split <;> omega))
   | (simp <;> omega)
   | omega))

theorem resize_sizes_0000 (old : Meta) (s : Bool) (w f i : Int) :
    resizeMeta old { signed := none, nword := none, nfrac := none, nint := none } =
      some (metaOf (Gen.resizeSizes_0000 old.signed old.nword old.nint old.nfrac s w f i)) := by
  unfold Gen.resizeSizes_0000; resize_tac

theorem resize_sizes_0001 (old : Meta) (s : Bool) (w f i : Int) :
    resizeMeta old { signed := none, nword := none, nfrac := none, nint := some i } =
      some (metaOf (Gen.resizeSizes_0001 old.signed old.nword old.nint old.nfrac s w f i)) := by
  unfold Gen.resizeSizes_0001; resize_tac

theorem resize_sizes_0010 (old : Meta) (s : Bool) (w f i : Int) :
    resizeMeta old { signed := none, nword := none, nfrac := some f, nint := none } =
      some (metaOf (Gen.resizeSizes_0010 old.signed old.nword old.nint old.nfrac s w f i)) := by
  unfold Gen.resizeSizes_0010; resize_tac

theorem resize_sizes_0011 (old : Meta) (s : Bool) (w f i : Int) :
    resizeMeta old { signed := none, nword := none, nfrac := some f, nint := some i } =
      some (metaOf (Gen.resizeSizes_0011 old.signed old.nword old.nint old.nfrac s w f i)) := by
  unfold Gen.resizeSizes_0011; resize_tac

theorem resize_sizes_0100 (old : Meta) (s : Bool) (w f i : Int) :
    resizeMeta old { signed := none, nword := some w, nfrac := none, nint := none } =
      some (metaOf (Gen.resizeSizes_0100 old.signed old.nword old.nint old.nfrac s w f i)) := by
  unfold Gen.resizeSizes_0100; resize_tac

theorem resize_sizes_0101 (old : Meta) (s : Bool) (w f i : Int) :
    resizeMeta old { signed := none, nword := some w, nfrac := none, nint := some i } =
      some (metaOf (Gen.resizeSizes_0101 old.signed old.nword old.nint old.nfrac s w f i)) := by
  unfold Gen.resizeSizes_0101; resize_tac

theorem resize_sizes_0110 (old : Meta) (s : Bool) (w f i : Int) :
    resizeMeta old { signed := none, nword := some w, nfrac := some f, nint := none } =
      some (metaOf (Gen.resizeSizes_0110 old.signed old.nword old.nint old.nfrac s w f i)) := by
  unfold Gen.resizeSizes_0110; resize_tac

theorem resize_sizes_0111 (old : Meta) (s : Bool) (w f i : Int) :
    resizeMeta old { signed := none, nword := some w, nfrac := some f, nint := some i } =
      some (metaOf (Gen.resizeSizes_0111 old.signed old.nword old.nint old.nfrac s w f i)) := by
  unfold Gen.resizeSizes_0111; resize_tac

theorem resize_sizes_1000 (old : Meta) (s : Bool) (w f i : Int) :
    resizeMeta old { signed := some s, nword := none, nfrac := none, nint := none } =
      some (metaOf (Gen.resizeSizes_1000 old.signed old.nword old.nint old.nfrac s w f i)) := by
  unfold Gen.resizeSizes_1000; resize_tac

theorem resize_sizes_1001 (old : Meta) (s : Bool) (w f i : Int) :
    resizeMeta old { signed := some s, nword := none, nfrac := none, nint := some i } =
      some (metaOf (Gen.resizeSizes_1001 old.signed old.nword old.nint old.nfrac s w f i)) := by
  unfold Gen.resizeSizes_1001; resize_tac

theorem resize_sizes_1010 (old : Meta) (s : Bool) (w f i : Int) :
    resizeMeta old { signed := some s, nword := none, nfrac := some f, nint := none } =
      some (metaOf (Gen.resizeSizes_1010 old.signed old.nword old.nint old.nfrac s w f i)) := by
  unfold Gen.resizeSizes_1010; resize_tac

theorem resize_sizes_1011 (old : Meta) (s : Bool) (w f i : Int) :
    resizeMeta old { signed := some s, nword := none, nfrac := some f, nint := some i } =
      some (metaOf (Gen.resizeSizes_1011 old.signed old.nword old.nint old.nfrac s w f i)) := by
  unfold Gen.resizeSizes_1011; resize_tac

theorem resize_sizes_1100 (old : Meta) (s : Bool) (w f i : Int) :
    resizeMeta old { signed := some s, nword := some w, nfrac := none, nint := none } =
      some (metaOf (Gen.resizeSizes_1100 old.signed old.nword old.nint old.nfrac s w f i)) := by
  unfold Gen.resizeSizes_1100; resize_tac

theorem resize_sizes_1101 (old : Meta) (s : Bool) (w f i : Int) :
    resizeMeta old { signed := some s, nword := some w, nfrac := none, nint := some i } =
      some (metaOf (Gen.resizeSizes_1101 old.signed old.nword old.nint old.nfrac s w f i)) := by
  unfold Gen.resizeSizes_1101; resize_tac

theorem resize_sizes_1110 (old : Meta) (s : Bool) (w f i : Int) :
    resizeMeta old { signed := some s, nword := some w, nfrac := some f, nint := none } =
      some (metaOf (Gen.resizeSizes_1110 old.signed old.nword old.nint old.nfrac s w f i)) := by
  unfold Gen.resizeSizes_1110; resize_tac

theorem resize_sizes_1111 (old : Meta) (s : Bool) (w f i : Int) :
    resizeMeta old { signed := some s, nword := some w, nfrac := some f, nint := some i } =
      some (metaOf (Gen.resizeSizes_1111 old.signed old.nword old.nint old.nfrac s w f i)) := by
  unfold Gen.resizeSizes_1111; resize_tac


/-! ## The constructor's size reconciliation (`_init_size`) when word and fraction are both determined by the arguments -/

/-- the format built from `(signed, n_word, n_frac)`; `none` when the word is negative, or zero and signed (the constructor raises). -/
def fmtOfSizes (t : Bool × Int × Int) : Option Fmt :=
  if t.2.1 < 0 ∨ (t.1 = true ∧ t.2.1 = 0) then none else some ⟨t.1, t.2.1.toNat, t.2.2⟩

macro "init_tac" : tactic => `(tactic|
  (simp only [inferFmt, fmtOfSizes, Option.getD] <;>
   first
   | rfl
   | (cases ‹Bool› <;> simp <;> done)
   | (simp; done)
   | (cases ‹Bool› <;> simp <;> omega)))

theorem init_sizes_0110 (s : Bool) (w f i : Int) (vals : List Rat) :
    inferFmt (none) (some w) (some f) (none) vals = fmtOfSizes (Gen.initSizes_0110 s w f i) := by
  unfold Gen.initSizes_0110; init_tac

theorem init_sizes_0101 (s : Bool) (w f i : Int) (vals : List Rat) :
    inferFmt (none) (some w) (none) (some i) vals = fmtOfSizes (Gen.initSizes_0101 s w f i) := by
  unfold Gen.initSizes_0101; init_tac

theorem init_sizes_0011 (s : Bool) (w f i : Int) (vals : List Rat) :
    inferFmt (none) (none) (some f) (some i) vals = fmtOfSizes (Gen.initSizes_0011 s w f i) := by
  unfold Gen.initSizes_0011; init_tac

theorem init_sizes_0111 (s : Bool) (w f i : Int) (vals : List Rat) :
    inferFmt (none) (some w) (some f) (some i) vals = fmtOfSizes (Gen.initSizes_0111 s w f i) := by
  unfold Gen.initSizes_0111; init_tac

theorem init_sizes_1110 (s : Bool) (w f i : Int) (vals : List Rat) :
    inferFmt (some s) (some w) (some f) (none) vals = fmtOfSizes (Gen.initSizes_1110 s w f i) := by
  unfold Gen.initSizes_1110; init_tac

theorem init_sizes_1101 (s : Bool) (w f i : Int) (vals : List Rat) :
    inferFmt (some s) (some w) (none) (some i) vals = fmtOfSizes (Gen.initSizes_1101 s w f i) := by
  unfold Gen.initSizes_1101; init_tac

theorem init_sizes_1011 (s : Bool) (w f i : Int) (vals : List Rat) :
    inferFmt (some s) (none) (some f) (some i) vals = fmtOfSizes (Gen.initSizes_1011 s w f i) := by
  unfold Gen.initSizes_1011; init_tac

theorem init_sizes_1111 (s : Bool) (w f i : Int) (vals : List Rat) :
    inferFmt (some s) (some w) (some f) (some i) vals = fmtOfSizes (Gen.initSizes_1111 s w f i) := by
  unfold Gen.initSizes_1111; init_tac


/-! ## `Fxp._overflow_action`: which flags, which kernel -/

/-- overflow is raised iff the rounded element exceeds the maximum, underflow iff it is below the minimum — two independent
conditions (an `elif` between them would make the second depend on the first). -/
theorem overflow_flags (f : Fmt) (k : Int) : Gen.overflowFlags k f.lo f.hi = arithFlags f k := by
  unfold Gen.overflowFlags arithFlags
  refine Prod.ext ?_ ?_ <;> simp only [] <;>
    first
    | rfl
    | (simp only [decide_eq_decide]; constructor <;> intro h <;> omega)
    | (simp; done)
    | (simp <;> omega)

/-- `config.overflow == 'saturate'` clamps with the format's limits: the model's `sat`. -/
theorem overflow_action_saturate (f : Fmt) (k : Int) :
    Gen.overflowAction_saturate f.signed f.nword f.nint f.nfrac k f.lo f.hi = ovf .saturate f k := by
  show _ = sat f k
  unfold Gen.overflowAction_saturate sat
  first
  | rfl
  | (simp; done)
  | omega

/-- `config.overflow == 'wrap'` is `utils.wrap` with the object's signedness and word: the model's `wrap`. -/
theorem overflow_action_wrap (f : Fmt) (k : Int) :
    Gen.overflowAction_wrap f.signed f.nword f.nint f.nfrac k f.lo f.hi = ovf .wrap f k := by
  show _ = wrap f k
  rw [← C03.wrapBits_eq_wrap]
  unfold Gen.overflowAction_wrap C03.wrapBits
  first
  | (simp [toNat_pred]; done)
  | (cases f.signed <;> simp [toNat_pred])


/-! ## `Fxp._round`: each configured rule calls the NumPy function of the same name (whose meaning is the model's `roundR`) -/

/-- the NumPy function the model's rounding rule stands for (`np.around` = half to even, `np.fix` = `np.trunc` = toward zero). -/
def npRoundName : Rounding → String
  | .trunc => "trunc" | .fix => "fix" | .floor => "floor" | .ceil => "ceil" | .around => "around"

/-- every rounding rule of the configuration is dispatched to the NumPy function of its own name, and to nothing else. -/
theorem round_table (r : Rounding) : (npRoundName r, npRoundName r) ∈ Gen.roundTable ∧
    ∀ p ∈ Gen.roundTable, p.1 = p.2 ∧ ∃ r' : Rounding, p.1 = npRoundName r' := by
  unfold Gen.roundTable
  constructor
  · cases r <;> simp [npRoundName]
  · intro p hp
    simp only [List.mem_cons, List.mem_nil_iff, or_false] at hp
    rcases hp with h | h | h | h | h <;> subst h <;> refine ⟨rfl, ?_⟩ <;>
      first | exact ⟨.around, rfl⟩ | exact ⟨.floor, rfl⟩ | exact ⟨.ceil, rfl⟩ | exact ⟨.fix, rfl⟩ | exact ⟨.trunc, rfl⟩


/-- the python function that rounds an exact rational the way each rule of the model does: `round` (nearest, ties to the even
integer — `Fraction.__round__`), `math.floor`, `math.ceil`, `math.trunc` (toward zero, which is what `fix` and `trunc` both mean). -/
def pyExactRoundName : Rounding → String
  | .trunc => "math.trunc" | .fix => "math.trunc" | .floor => "math.floor" | .ceil => "math.ceil" | .around => "round"

/-- the exact-rational branch of `_round` (results that lose fraction bits, D41) applies to every rounding rule the python function that
computes the model's `roundR` for it, and the table has no other entry. -/
theorem round_rational_table (r : Rounding) : (npRoundName r, pyExactRoundName r) ∈ Gen.roundRationalTable ∧
    ∀ p ∈ Gen.roundRationalTable, ∃ r' : Rounding, p = (npRoundName r', pyExactRoundName r') := by
  unfold Gen.roundRationalTable
  constructor
  · cases r <;> simp [npRoundName, pyExactRoundName]
  · intro p hp
    simp only [List.mem_cons, List.mem_nil_iff, or_false] at hp
    rcases hp with h | h | h | h | h <;> subst h <;>
      first | exact ⟨.around, rfl⟩ | exact ⟨.floor, rfl⟩ | exact ⟨.ceil, rfl⟩ | exact ⟨.fix, rfl⟩ | exact ⟨.trunc, rfl⟩


/-! ## The property theorems, restated about the generated rules

`_function_over_one_var` / `_function_over_two_vars` build the result with `Fxp(val, signed=, n_int=, n_frac=)`
from the tuple `optimal_size`; `fmtOfTuple` is that construction (`mkFmt`).  The theorems below are the "never
overflows" halves of C07 / C09 / C15 and the "no silent wrap" of C19 with the *generated* rule in the statement. -/

/-- the format `Fxp(val, signed=t.1, n_int=t.2.2.1, n_frac=t.2.2.2)` builds (`none` when the word is negative, or zero and signed). -/
def fmtOfTuple (t : Bool × Int × Int × Int) : Option Fmt := mkFmt t.1 t.2.2.1 t.2.2.2

theorem fmtOfTuple_sz (op : BinOp) (x y : Fmt) : fmtOfTuple (sz (optimalSize op x y)) = resultFmt .optimal op x y := by
  unfold fmtOfTuple sz resultFmt sizing; rfl

theorem fmtOfTuple_fmtT (g : Fmt) (h : 0 < g.nword) : fmtOfTuple (fmtT g) = some g := by
  have e : bsig g.signed + g.nint + g.nfrac = (g.nword : Int) := by unfold bsig Fmt.nint; split <;> omega
  exact mkFmt_of_nword g.signed g.nint g.nfrac g.nword e fun _ => h

theorem add_fits_src (x y : Fmt) (hx : x.WF) (hy : y.WF) (a b : Int) (ha : x.InRange a) (hb : y.InRange b) (t : Fmt)
    (ht : fmtOfTuple (Gen.addSize x.signed x.nword x.nint x.nfrac y.signed y.nword y.nint y.nfrac) = some t) :
    t.InRange (C07.sumCode x y a b) := by
  rw [add_size, fmtOfTuple_sz] at ht
  exact C07.add_fits x y hx hy a b ha hb t ht

theorem sub_fits_src (x y : Fmt) (hx : x.WF) (hy : y.WF) (a b : Int) (ha : x.InRange a) (hb : y.InRange b) (t : Fmt)
    (ht : fmtOfTuple (Gen.subSize x.signed x.nword x.nint x.nfrac y.signed y.nword y.nint y.nfrac) = some t)
    (hsign : (x.signed || y.signed) = true ∨ 0 ≤ C07.diffCode x y a b) : t.InRange (C07.diffCode x y a b) := by
  rw [sub_size, fmtOfTuple_sz] at ht
  exact C07.sub_fits x y hx hy a b ha hb t ht hsign

theorem mul_fits_src (x y : Fmt) (hx : x.WF) (hy : y.WF) (a b : Int) (ha : x.InRange a) (hb : y.InRange b) (t : Fmt)
    (ht : fmtOfTuple (Gen.mulSize x.signed x.nword x.nint x.nfrac y.signed y.nword y.nint y.nfrac) = some t) :
    t.InRange (a * b) := by
  rw [mul_size, fmtOfTuple_sz] at ht
  exact C07.mul_fits x y hx hy a b ha hb t ht

theorem truediv_fits_src (x y : Fmt) (hx : x.WF) (hy : y.WF) (a b : Int) (ha : x.InRange a) (hb : y.InRange b) (hb0 : b ≠ 0)
    (t : Fmt) (ht : fmtOfTuple (Gen.truedivSize x.signed x.nword x.nint x.nfrac y.signed y.nword y.nint y.nfrac) = some t) :
    t.InRange ⌊C09.Q t x y a b⌋ := by
  rw [truediv_size, fmtOfTuple_sz] at ht
  exact C09.truediv_fits x y hx hy a b ha hb hb0 t ht

/-- **C09 (`//` never overflows) about the source's own sizing rule**, for every pair of operand formats. -/
theorem floordiv_fits_src (x y : Fmt) (hx : x.WF) (hy : y.WF) (a b : Int) (ha : x.InRange a) (hb : y.InRange b) (hb0 : b ≠ 0)
    (t : Fmt) (ht : fmtOfTuple (Gen.floordivSize x.signed x.nword x.nint x.nfrac y.signed y.nword y.nint y.nfrac) = some t) :
    t.InRange ⌊valueOf x a / valueOf y b⌋ := by
  rw [floordiv_size, fmtOfTuple_sz] at ht
  exact C09.floordiv_fits x y hx hy a b ha hb hb0 t ht

/-- … and that format exists for every pair of operand formats (the source never refuses a floor division for want of a format). -/
theorem floordiv_fmt_src (x y : Fmt) (hx : x.WF) :
    ∃ t, fmtOfTuple (Gen.floordivSize x.signed x.nword x.nint x.nfrac y.signed y.nword y.nint y.nfrac) = some t := by
  rw [floordiv_size, fmtOfTuple_sz]
  obtain ⟨t, ht, _⟩ := C09.floordiv_fmt x y hx
  exact ⟨t, ht⟩

theorem sum_fits_src (f : Fmt) (hw : 0 < f.nword) (cs : List Int) (hne : cs ≠ []) (h : ∀ c ∈ cs, f.InRange c) (t : Fmt)
    (ht : fmtOfTuple (Gen.sumSize f.signed f.nword f.nint f.nfrac cs.length) = some t) : t.InRange (sumL cs) := by
  rw [sum_size, fmtOfTuple_fmtT _ (by unfold sumFmt; simp only; omega)] at ht
  cases ht
  exact C15.sum_fits f hw cs hne h

theorem prod_fits_src (f : Fmt) (hf : f.WF) (hw : 0 < f.nword) (cs : List Int) (hne : cs ≠ []) (h : ∀ c ∈ cs, f.InRange c) (t : Fmt)
    (ht : fmtOfTuple (Gen.prodSize f.signed f.nword f.nint f.nfrac cs.length) = some t) : t.InRange (prodL cs) := by
  have hl : 0 < cs.length := List.length_pos_iff.mpr hne
  rw [prod_size, fmtOfTuple_fmtT _ (by unfold prodFmt; simp only; exact Nat.mul_pos hl hw)] at ht
  cases ht
  exact C15.prod_fits f hf hw cs hne h

theorem dot_fits_src (x y : Fmt) (hx : x.WF) (hy : y.WF) (hpos : 0 < x.nword + y.nword) (as bs : List Int)
    (hlen : as.length = bs.length) (hne : as ≠ []) (ha : ∀ a ∈ as, x.InRange a) (hb : ∀ b ∈ bs, y.InRange b) (t : Fmt)
    (ht : fmtOfTuple (Gen.dotSize x.signed x.nword x.nint x.nfrac y.signed y.nword y.nint y.nfrac as.length) = some t) :
    t.InRange (dotL as bs) := by
  rw [dot_size, fmtOfTuple_fmtT _ (by unfold dotFmt; simp only; omega)] at ht
  cases ht
  exact C15.dot_fits x y hx hy hpos as bs hlen hne ha hb

/-- `R`: the source's rule, `M`: the model's; a rule at least as cautious as a safe one is safe, Python integers being exact. -/
theorem path_exact_of_cautious (R M : Bool) (hRM : M = true → R = true) (x y : Fmt) (z : Int)
    (h : machineResult (machinePath M x y) z = some z) : machineResult (machinePath R x y) z = some z := by
  cases R
  · cases M
    · exact h
    · exact nomatch hRM rfl
  · rfl

/-- **C19 (add/sub) about the source's own rule**: whatever carrier `_needs_python_int` selects, the aligned sum and
difference come out exact. -/
theorem add_path_exact_src (x y : Fmt) (hx : x.WF) (hy : y.WF) (a b : Int) (ha : x.InRange a) (hb : y.InRange b) :
    let R := Gen.needsPyInt x.signed x.nword x.nint x.nfrac y.signed y.nword y.nint y.nfrac (max x.nfrac y.nfrac)
    machineResult (machinePath R x y) (C07.sumCode x y a b) = some (C07.sumCode x y a b) ∧
    machineResult (machinePath R x y) (C07.diffCode x y a b) = some (C07.diffCode x y a b) := by
  intro R
  have h := C19.add_path_exact x y hx hy a b ha hb
  exact ⟨path_exact_of_cautious R _ (needs_pyint x y _) x y _ h.1, path_exact_of_cautious R _ (needs_pyint x y _) x y _ h.2⟩

/-- **C19 (mul) about the source's own rule**. -/
theorem mul_path_exact_src (x y : Fmt) (hx : x.WF) (hy : y.WF) (a b : Int) (ha : x.InRange a) (hb : y.InRange b) :
    machineResult (machinePath (Gen.mulNeedsPyInt x.signed x.nword x.nint x.nfrac y.signed y.nword y.nint y.nfrac (x.nfrac + y.nfrac)) x y)
      (a * b) = some (a * b) :=
  path_exact_of_cautious _ _ (mul_needs_pyint x y _) x y _ (C19.mul_path_exact x y hx hy a b ha hb)

/-! ## carrier selection of dot / matmul / prod (D70): the 64-bit route is taken only where it is exact -/

/-- the arithmetic content of the carrier rule of dot / matmul, which tests `clog2 n + n_x + n_y + max(shift, 0)` (`hN`) against
63 and 53. -/
theorem dot_bound (x y : Fmt) (F : Int) (as bs : List Int) (ha : ∀ a ∈ as, x.InRange a) (hb : ∀ b ∈ bs, y.InRange b) (N : Nat)
    (hN : (clog2 as.length : Int) + x.nword + y.nword + max (F - x.nfrac - y.nfrac) 0 ≤ N) :
    |dotL as bs| * 2 ^ (F - x.nfrac - y.nfrac).toNat ≤ 2 ^ N := by
  have hp : ∀ p ∈ List.zipWith (· * ·) as bs, |p| ≤ 2 ^ (x.nword + y.nword) :=
    forall_mem_zipWith fun a h b h' => abs_mul_le_of_inRange (ha a h) (hb b h') le_rfl
  have hlen : ((List.zipWith (· * ·) as bs).length : Int) ≤ 2 ^ clog2 as.length := by
    exact_mod_cast C15.products_length_le as bs
  have hd : |dotL as bs| ≤ 2 ^ (clog2 as.length + (x.nword + y.nword)) := by
    rw [dotL, C15.sumL_eq, pow_add]
    exact (abs_sum_le hp).trans (mul_le_mul_of_nonneg_right hlen (by positivity))
  rw [← abs_of_pos (by positivity : (0:Int) < 2 ^ (F - x.nfrac - y.nfrac).toNat), ← abs_mul]
  exact abs_shl_le hd (by omega)

/-- dot: when the python-integer branch is not taken, the sum of products of in-range codes, rescaled to the result's
fraction length, is at most `2^62` in magnitude (NumPy's 64-bit integers hold it), and at most `2^52` for a signed with an unsigned
operand (NumPy combines those in float64, which holds 53 bits). -/
theorem dot_int64_path (x y : Fmt) (F : Int) (as bs : List Int)
    (h : Gen.dotNeedsPyInt x.signed x.nword x.nint x.nfrac y.signed y.nword y.nint y.nfrac F as.length = false)
    (ha : ∀ a ∈ as, x.InRange a) (hb : ∀ b ∈ bs, y.InRange b) :
    |dotL as bs| * 2 ^ (F - x.nfrac - y.nfrac).toNat ≤ 2 ^ 62 ∧
      (x.signed ≠ y.signed → |dotL as bs| * 2 ^ (F - x.nfrac - y.nfrac).toNat ≤ 2 ^ 52) := by
  unfold Gen.dotNeedsPyInt at h
  simp only [Bool.or_eq_false_iff, decide_eq_false_iff_not, Bool.and_eq_false_iff, Int.toNat_natCast] at h
  obtain ⟨⟨_, h63⟩, h53⟩ := h
  constructor
  · exact dot_bound x y F as bs ha hb 62 (by omega)
  · intro hs
    rcases h53 with h | h
    · exact absurd h (by simpa using hs)
    · exact dot_bound x y F as bs ha hb 52 (by omega)

/-- matmul: the same rule as dot (every entry is a dot product of a row and a column). -/
theorem matmul_int64_path (x y : Fmt) (F : Int) (as bs : List Int)
    (h : Gen.matmulNeedsPyInt x.signed x.nword x.nint x.nfrac y.signed y.nword y.nint y.nfrac F as.length = false)
    (ha : ∀ a ∈ as, x.InRange a) (hb : ∀ b ∈ bs, y.InRange b) :
    |dotL as bs| * 2 ^ (F - x.nfrac - y.nfrac).toNat ≤ 2 ^ 62 ∧
      (x.signed ≠ y.signed → |dotL as bs| * 2 ^ (F - x.nfrac - y.nfrac).toNat ≤ 2 ^ 52) := by
  unfold Gen.matmulNeedsPyInt at h
  simp only [Bool.or_eq_false_iff, decide_eq_false_iff_not, Bool.and_eq_false_iff, Int.toNat_natCast] at h
  obtain ⟨⟨_, h63⟩, h53⟩ := h
  constructor
  · exact dot_bound x y F as bs ha hb 62 (by omega)
  · intro hs
    rcases h53 with h | h
    · exact absurd h (by simpa using hs)
    · exact dot_bound x y F as bs ha hb 52 (by omega)

/-- prod: when the python-integer branch is not taken, the product of the in-range codes, rescaled to the result's fraction
length, is at most `2^62` in magnitude. -/
theorem prod_int64_path (x : Fmt) (F : Int) (cs : List Int)
    (h : Gen.prodNeedsPyInt x.signed x.nword x.nint x.nfrac F cs.length = false) (hc : ∀ c ∈ cs, x.InRange c) :
    |prodL cs| * 2 ^ (F - cs.length * x.nfrac).toNat ≤ 2 ^ 62 := by
  unfold Gen.prodNeedsPyInt at h
  simp only [Bool.or_eq_false_iff, decide_eq_false_iff_not] at h
  have hp : |cs.prod| ≤ 2 ^ (x.nword * cs.length) := pow_mul (2:Int) .. ▸ abs_prod_le fun c h => abs_le_of_inRange (hc c h)
  have hexp : ((x.nword * cs.length : Nat) : Int) = (cs.length : Int) * x.nword := by push_cast; ring   -- for the `omega` below
  rw [C15.prodL_eq, ← abs_of_pos (by positivity : (0:Int) < 2 ^ (F - cs.length * x.nfrac).toNat), ← abs_mul]
  exact abs_shl_le hp (by omega)

example : Gen.dotNeedsPyInt true 12 4 8 false 12 4 8 16 4 = false ∧ Gen.dotNeedsPyInt false 42 42 0 false 42 42 0 0 2 = true ∧
    Gen.prodNeedsPyInt false 42 42 0 0 2 = true ∧ Gen.prodNeedsPyInt true 8 6 2 6 3 = false := by decide +kernel


end Fxp.Gen.Tie
