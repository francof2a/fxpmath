import FxpVerif.Model.Compare
import FxpVerif.Lemmas.Round
import FxpVerif.Lemmas.Range
/-! # C16 — comparisons and numeric conversions agree with the exact stored value -/
namespace Fxp.C16

/-- codes of two formats aligned to the finer fraction length. -/
def alignL (x y : Fmt) (a : ℤ) : ℤ := a * 2 ^ (max x.nfrac y.nfrac - x.nfrac).toNat
def alignR (x y : Fmt) (b : ℤ) : ℤ := b * 2 ^ (max x.nfrac y.nfrac - y.nfrac).toNat

/-- `get_val` / `astype(float)` / `float()`: exactly `code · 2^-n_frac`. -/
theorem get_val_exact (f : Fmt) (c : ℤ) : valueOf f c = (c:ℚ) * (2:ℚ) ^ (-f.nfrac) := valueOf_eq f c

theorem strictMono_code (e : ℤ) : StrictMono fun k : ℤ => (k:ℚ) * (2:ℚ) ^ e :=
  fun _ _ h => mul_lt_mul_of_pos_right (Int.cast_lt.mpr h) (two_zpow_pos e)

theorem value_align (x y : Fmt) (a : ℤ) :
    valueOf x a = ((alignL x y a : ℤ) : ℚ) * (2:ℚ) ^ (-(max x.nfrac y.nfrac)) :=
  value_aligned x a _ (le_max_left _ _)

theorem value_alignR (x y : Fmt) (b : ℤ) :
    valueOf y b = ((alignR x y b : ℤ) : ℚ) * (2:ℚ) ^ (-(max x.nfrac y.nfrac)) :=
  value_aligned y b _ (le_max_right _ _)

/-- **order of values = order of aligned integer codes**, for any two formats. -/
theorem lt_iff (x y : Fmt) (a b : ℤ) : valueOf x a < valueOf y b ↔ alignL x y a < alignR x y b := by
  rw [value_align x y a, value_alignR x y b]; exact (strictMono_code _).lt_iff_lt

theorem le_iff (x y : Fmt) (a b : ℤ) : valueOf x a ≤ valueOf y b ↔ alignL x y a ≤ alignR x y b := by
  rw [value_align x y a, value_alignR x y b]; exact (strictMono_code _).le_iff_le

theorem eq_iff (x y : Fmt) (a b : ℤ) : valueOf x a = valueOf y b ↔ alignL x y a = alignR x y b := by
  rw [value_align x y a, value_alignR x y b]; exact (strictMono_code _).injective.eq_iff

/-- the six operators return the truth value of the relation between the exact values. -/
theorem cmp_iff (x y : Fmt) (a b : ℤ) :
    ((cmpFxp x y a b).lt = true ↔ valueOf x a < valueOf y b) ∧
    ((cmpFxp x y a b).le = true ↔ valueOf x a ≤ valueOf y b) ∧
    ((cmpFxp x y a b).eq = true ↔ valueOf x a = valueOf y b) ∧
    ((cmpFxp x y a b).ne = true ↔ valueOf x a ≠ valueOf y b) ∧
    ((cmpFxp x y a b).gt = true ↔ valueOf x a > valueOf y b) ∧
    ((cmpFxp x y a b).ge = true ↔ valueOf x a ≥ valueOf y b) := by
  unfold cmpFxp cmpRat
  simp only [decide_eq_true_eq, and_self]

theorem valueOf_strictMono (f : Fmt) (a b : ℤ) : valueOf f a < valueOf f b ↔ a < b := by
  rw [get_val_exact, get_val_exact]; exact (strictMono_code _).lt_iff_lt

/-- `astype(int)` / `int()`: the floor of the value. -/
theorem astype_int_floor (f : Fmt) (c : ℤ) : astypeInt f c = ⌊(c:ℚ) * (2:ℚ) ^ (-f.nfrac)⌋ := by
  unfold astypeInt; rw [floor_eq, get_val_exact]

/-- `bool()` is true iff the code is non-zero. -/
theorem bool_iff_nonzero (f : Fmt) (c : ℤ) : toBool f c = true ↔ c ≠ 0 := by
  unfold toBool
  rw [decide_eq_true_eq, get_val_exact, mul_ne_zero_iff, Int.cast_ne_zero]
  exact and_iff_left (two_zpow_pos _).ne'

theorem urawM_eq_emod (f : Fmt) (c : ℤ) (h1 : -(2:ℤ) ^ f.nword ≤ c) (h2 : c < 2 ^ f.nword) :
    urawM f c = c % 2 ^ f.nword := by
  unfold urawM; split
  · exact (Int.emod_eq_of_lt (by omega) (by omega)).symm.trans (Int.add_emod_left ..)
  · exact (Int.emod_eq_of_lt (by omega) h2).symm

/-- `uraw()` is the n_word-bit two's-complement image: in `[0, 2^n)` and congruent to the code. -/
theorem uraw_pattern (f : Fmt) (hw : 0 < f.nword) (c : ℤ) (h : f.InRange c) :
    0 ≤ urawM f c ∧ urawM f c < 2 ^ f.nword ∧ (urawM f c - c) % 2 ^ f.nword = 0 ∧ urawM f c = c % 2 ^ f.nword := by
  rw [urawM_eq_emod f c h.fits_nword.lo h.fits_nword.hi]
  exact ⟨Int.emod_nonneg _ (by positivity), Int.emod_lt_of_pos _ (by positivity),
    Int.emod_eq_emod_iff_emod_sub_eq_zero.mp (Int.emod_emod _ _), rfl⟩

/-! non-vacuity -/
example : (cmpFxp ⟨true, 8, 2⟩ ⟨false, 5, 4⟩ 3 12).eq = true := by decide +kernel
example : astypeInt ⟨true, 8, 2⟩ (-5) = -2 := by decide +kernel
example : urawM ⟨true, 8, 2⟩ (-5) = 251 := by decide +kernel

end Fxp.C16
