import FxpVerif.Spec.C01
import FxpVerif.Lemmas.Store
/-! # C01 — storing quantizes exactly: scale, round, saturate/wrap -/
namespace Fxp.C01

theorem roundR_spec (r : Rounding) (x : ℚ) : SpecRound r x (roundR r x) := by
  have hfloor : ((⌊x⌋ : ℤ) : ℚ) ≤ x ∧ x < ⌊x⌋ + 1 := ⟨Int.floor_le x, Int.lt_floor_add_one x⟩
  have hceil : ((⌈x⌉ : ℤ) : ℚ) - 1 < x ∧ x ≤ ⌈x⌉ := ⟨sub_lt_iff_lt_add.mpr (Int.ceil_lt_add_one x), Int.le_ceil x⟩
  have htrunc : SpecRound .trunc x (roundR .trunc x) := by
    rw [roundR_trunc]
    exact ⟨fun h => by rwa [if_neg (not_lt.mpr h)], fun h => by rwa [if_pos h]⟩
  cases r with
  | around => exact roundHalfEven_spec x
  | floor => exact hfloor
  | ceil => rw [roundR_ceil]; exact hceil
  | trunc | fix => exact htrunc

theorem roundR_unique (r : Rounding) (x : ℚ) (q : ℤ) (h : SpecRound r x q) : q = roundR r x := by
  have htrunc (h : SpecRound .trunc x q) : q = roundR .trunc x := by
    rw [roundR_trunc]
    split
    · exact (Int.ceil_eq_iff.mpr (h.2 ‹_›)).symm
    · exact (Int.floor_eq_iff.mpr (h.1 (not_lt.mp ‹_›))).symm
  cases r with
  | around => exact roundHalfEven_unique x q h.1 h.2
  | floor => exact (Int.floor_eq_iff.mpr h).symm
  | ceil => rw [roundR_ceil]; exact (Int.ceil_eq_iff.mpr h).symm
  | trunc | fix => exact htrunc h

theorem ovf_spec (o : Overflow) (f : Fmt) (k : ℤ) : SpecOvf o f k (ovf o f k) := by
  cases o
  · exact ⟨sat_above f k, sat_below f k, sat_of_inRange f k⟩
  · exact ⟨inRange_wrap f k, wrap_congr f k⟩

theorem ovf_unique (o : Overflow) (f : Fmt) (hw : 0 < f.nword) (k c : ℤ) (h : SpecOvf o f k c) :
    c = ovf o f k := by
  cases o
  · obtain ⟨h1, h2, h3⟩ := h
    rcases lt_or_ge f.hi k with ha | ha
    · exact (h1 ha).trans (sat_above f k ha).symm
    rcases lt_or_ge k f.lo with hb | hb
    · exact (h2 hb).trans (sat_below f k hb).symm
    · exact (h3 ⟨hb, ha⟩).trans (sat_of_inRange f k ⟨hb, ha⟩).symm
  · exact wrap_unique f hw k c h.1 h.2

/-- **C01, existence**: the model's stored code is OVERFLOW(ROUND(v·2^n_frac)). -/
theorem quantize_spec (f : Fmt) (r : Rounding) (o : Overflow) (v : ℚ) :
    Spec f r o v (quantize f r o v) :=
  ⟨roundR r (v * (2:ℚ) ^ f.nfrac), roundR_spec r _, by
    unfold quantize; rw [scale_eq]; exact ovf_spec o f _⟩

/-- **C01, uniqueness**: the relational statement determines the code, so "observed = quantize" is
equivalent to the property. -/
theorem spec_iff (f : Fmt) (hw : 0 < f.nword) (r : Rounding) (o : Overflow) (v : ℚ) (c : ℤ) :
    Spec f r o v c ↔ c = quantize f r o v := by
  constructor
  · rintro ⟨k, hk, hc⟩
    have := roundR_unique r _ k hk
    subst this
    unfold quantize; rw [scale_eq]; exact ovf_unique o f hw _ c hc
  · rintro rfl; exact quantize_spec f r o v

/-- the value read back is exactly `code · 2^-n_frac`. -/
theorem readback_exact (f : Fmt) (c : ℤ) : SpecRead f c (valueOf f c) := valueOf_eq f c

/-- the checker run on the implementation's output is equivalent to the Spec. -/
theorem chk_iff (f : Fmt) (hw : 0 < f.nword) (r : Rounding) (o : Overflow) (v : ℚ) (c : ℤ) (x : ℚ) :
    Chk.c01 f r o v c x = true ↔ Spec f r o v c ∧ SpecRead f c x := by
  unfold Chk.c01
  rw [Bool.and_eq_true, decide_eq_true_eq, decide_eq_true_eq, spec_iff f hw]
  constructor
  · rintro ⟨h1, h2⟩; exact ⟨h1, by rw [h2]; exact readback_exact f c⟩
  · rintro ⟨h1, h2⟩; exact ⟨h1, by rw [h2]; exact (readback_exact f c).symm⟩

/-! ### the code paths of `set_val` all compute `quantize` -/

theorem storeFloat_eq (f : Fmt) (r : Rounding) (o : Overflow) (v : ℚ) :
    storeFloat f r o v = quantize f r o v := rfl

/-- integer carriers are *not* rounded by `_round` when `n_frac ≥ 0`; that is harmless because the
scaled value is already an integer. -/
theorem storeInt_eq (f : Fmt) (r : Rounding) (o : Overflow) (k : ℤ) :
    storeInt f r o k = quantize f r o (k:ℚ) := by
  unfold storeInt
  split
  · exact (quantize_intCast f ‹_› r o k).symm
  · rfl

/-- raw store of an integer is the overflow action alone, i.e. the quantization of the code's own value. -/
theorem storeRawInt_eq (f : Fmt) (r : Rounding) (o : Overflow) (k : ℤ) :
    storeRawInt f o k = quantize f r o (valueOf f k) := by
  unfold storeRawInt quantize
  rw [roundR_scale_valueOf]

theorem storeComplex_componentwise (f : Fmt) (r : Rounding) (o : Overflow) (z : ℚ × ℚ) :
    storeComplex f r o z = (quantize f r o z.1, quantize f r o z.2) := rfl

theorem storeArray_pointwise (f : Fmt) (r : Rounding) (o : Overflow) (vs : List ℚ) :
    storeArray f r o vs = vs.map (quantize f r o) := rfl

/-! ### slivers: a scaled value that underflows the double range (D40)

With a negative fraction length the scaling `v·2^n_frac` of a subnormal double is smaller than any double.  What the rounding
rules make of such a sliver depends on its sign only — which is why the repair may replace the lost product by *any* tiny number
of the same sign (`Fxp._scale`), and why replacing it by `0` (the pinned behaviour) was wrong for `floor` and `ceil`. -/

/-- what each rule stores for a positive sliver (`0 < x < 1/2`): `ceil` goes up to 1, every other rule to 0. -/
theorem roundR_pos_sliver (r : Rounding) {x : ℚ} (h0 : 0 < x) (h1 : x < 1/2) :
    roundR r x = if r = .ceil then 1 else 0 := by
  have h1' : x < 1 := h1.trans (by norm_num)
  have hf : ⌊x⌋ = 0 := Int.floor_eq_zero_iff.mpr ⟨h0.le, h1'⟩
  have hc : ⌈x⌉ = 1 := Int.ceil_eq_iff.mpr ⟨by simpa using h0, by simpa using h1'.le⟩
  have ht : roundR .trunc x = 0 := by rw [roundR_trunc, if_neg (not_lt.mpr h0.le), hf]
  cases r with
  | trunc | fix => exact ht
  | floor => rw [roundR_floor, hf]; rfl
  | ceil => rw [roundR_ceil, hc]; rfl
  | around =>
    show roundHalfEven x = _
    rw [roundHalfEven_of_lt x (by simpa [hf] using h1), hf]; rfl

/-- … and for a negative one (`-1/2 < x < 0`): `floor` goes down to −1, every other rule to 0. -/
theorem roundR_neg_sliver (r : Rounding) {x : ℚ} (h0 : x < 0) (h1 : -1/2 < x) :
    roundR r x = if r = .floor then -1 else 0 := by
  have h1' : -1 < x := lt_trans (by norm_num) h1
  have hf : ⌊x⌋ = -1 := Int.floor_eq_iff.mpr ⟨by simpa using h1'.le, by simpa using h0⟩
  have hc : ⌈x⌉ = 0 := Int.ceil_eq_zero_iff.mpr ⟨h1', h0.le⟩
  have ht : roundR .trunc x = 0 := by rw [roundR_trunc, if_pos h0, hc]
  cases r with
  | trunc | fix => exact ht
  | floor => rw [roundR_floor, hf]; rfl
  | ceil => rw [roundR_ceil, hc]; rfl
  | around =>
    show roundHalfEven x = _
    have : 1/2 < x - ((⌊x⌋ : ℤ) : ℚ) := by rw [hf]; linarith
    rw [roundHalfEven_of_gt x this, hf]; rfl

/-- **the rounded value of a sliver depends on its sign only**: any two slivers of the same sign are stored alike. -/
theorem roundR_sliver_indep (r : Rounding) {x y : ℚ} (hx : 0 < x ∧ x < 1/2 ∨ x < 0 ∧ -1/2 < x)
    (hy : 0 < y ∧ y < 1/2 ∨ y < 0 ∧ -1/2 < y) (hs : 0 < x ↔ 0 < y) : roundR r x = roundR r y := by
  rcases hx with ⟨a, b⟩ | ⟨a, b⟩ <;> rcases hy with ⟨c, d⟩ | ⟨c, d⟩
  · rw [roundR_pos_sliver r a b, roundR_pos_sliver r c d]
  · exact (lt_asymm c (hs.mp a)).elim
  · exact (lt_asymm a (hs.mpr c)).elim
  · rw [roundR_neg_sliver r a b, roundR_neg_sliver r c d]

/-- the pinned behaviour (the product underflowed to 0) differs from the Spec for `ceil` of a positive and `floor` of a negative sliver, shown at `±1/1000` (by the two lemmas above, for no other rule). -/
theorem zero_is_wrong_for_sliver : roundR .ceil (1/1000 : ℚ) ≠ roundR .ceil 0 ∧ roundR .floor (-1/1000 : ℚ) ≠ roundR .floor 0 := by
  have hc : roundR .ceil (0:ℚ) = 0 := by simpa using roundR_int .ceil 0
  have hf : roundR .floor (0:ℚ) = 0 := by simpa using roundR_int .floor 0
  constructor
  · rw [roundR_pos_sliver .ceil (by norm_num) (by norm_num), hc]; decide
  · rw [roundR_neg_sliver .floor (by norm_num) (by norm_num), hf]; decide

/-! ### non-vacuity -/
example : quantize ⟨true, 8, 2⟩ .around .saturate (27/8) = 14 := by decide +kernel
example : quantize ⟨true, 8, 2⟩ .around .saturate (29/8) = 14 := by decide +kernel   -- tie to even
example : quantize ⟨true, 8, -2⟩ .floor .wrap (-1030) = -2 := by decide +kernel      -- negative n_frac, wraps
example : quantize ⟨false, 4, 0⟩ .trunc .saturate (-3) = 0 := by decide +kernel      -- own-side bound
example : Spec ⟨true, 8, 2⟩ .around .saturate (27/8) 14 :=
  (spec_iff _ (by decide) _ _ _ _).mpr (by decide +kernel)

end Fxp.C01
