import FxpVerif.Lemmas.Pattern
import FxpVerif.Lemmas.Range
/-! # C13 — bitwise operators act on the n_word-bit two's-complement word -/
namespace Fxp.C13

theorem resign_spec (f : Fmt) (u : ℕ) (hu : u < 2 ^ f.nword) :
    f.InRange (resign f u) ∧ upat f.nword (resign f u) = u := by
  rw [resign_eq_wrap f u (Or.inr hu), upat_wrap, upat_natCast hu]
  exact ⟨inRange_wrap f _, rfl⟩

theorem resign_upat (f : Fmt) (hw : 0 < f.nword) (c : ℤ) (h : f.InRange c) : resign f (upat f.nword c) = c := by
  rw [resign_eq_wrap f _ (Or.inr (upat_lt _ _)), wrap_upat_of_inRange f hw c h]

theorem bitop_lt (op : BitOp) (n a b : ℕ) (ha : a < 2 ^ n) (hb : b < 2 ^ n) : bitop op a b < 2 ^ n := by
  cases op
  · exact Nat.and_lt_two_pow _ hb
  · exact Nat.or_lt_two_pow ha hb
  · exact Nat.xor_lt_two_pow ha hb

theorem bitwiseM_eq_wrap (op : BitOp) (f : Fmt) (hw : 0 < f.nword) (o : Overflow) (c m : ℤ) :
    bitwiseM op f o c m = wrap f (bitop op (upat f.nword c) (upat f.nword m)) := by
  unfold bitwiseM
  rw [resign_eq_wrap f _ (Or.inr (bitop_lt op _ _ _ (upat_lt _ c) (upat_lt _ m))),
    ovf_of_inRange o f hw _ (inRange_wrap f _)]

/-- **x & y, x | y, x ^ y**: the result is in range of x's format and its n_word-bit pattern is the bitwise
combination of the operands' patterns (operand `m` may be a code of either signedness or any integer mask). -/
theorem bitwise_pattern (op : BitOp) (f : Fmt) (hw : 0 < f.nword) (o : Overflow) (c m : ℤ) :
    f.InRange (bitwiseM op f o c m) ∧
    upat f.nword (bitwiseM op f o c m) = bitop op (upat f.nword c) (upat f.nword m) := by
  rw [bitwiseM_eq_wrap op f hw, upat_wrap, upat_natCast (bitop_lt op _ _ _ (upat_lt _ c) (upat_lt _ m))]
  exact ⟨inRange_wrap f _, rfl⟩

/-- bit `i` of the result is the Boolean operation of the operands' bits `i`. -/
theorem bitwise_testBit (op : BitOp) (f : Fmt) (hw : 0 < f.nword) (o : Overflow) (c m : ℤ) (i : ℕ) :
    (upat f.nword (bitwiseM op f o c m)).testBit i =
      match op with
      | .and => (upat f.nword c).testBit i && (upat f.nword m).testBit i
      | .or  => (upat f.nword c).testBit i || (upat f.nword m).testBit i
      | .xor => (upat f.nword c).testBit i ^^ (upat f.nword m).testBit i := by
  rw [(bitwise_pattern op f hw o c m).2]
  cases op
  exacts [Nat.testBit_and .., Nat.testBit_or .., Nat.testBit_xor ..]

theorem invertM_eq_wrap (f : Fmt) (hw : 0 < f.nword) (o : Overflow) (c : ℤ) (h : f.InRange c) :
    invertM f o c = wrap f (-c - 1) := by
  have hc := h.fits_nword.hi
  have hnn : 0 ≤ 2 ^ f.nword - 1 - c := by omega
  have hu : f.signed = true ∨ (2 ^ f.nword - 1 - c).toNat < 2 ^ f.nword := by
    cases hs : f.signed
    · have h0 := h.fits.nonneg hs
      right; rw [Int.toNat_lt hnn]; push_cast; omega
    · exact Or.inl rfl
  unfold invertM
  rw [resign_eq_wrap f _ hu, Int.toNat_of_nonneg hnn, ovf_of_inRange o f hw _ (inRange_wrap f _)]
  exact wrap_of_emod_eq f (by rw [show (2:ℤ) ^ f.nword - 1 - c = -c - 1 + 2 ^ f.nword by ring, Int.add_emod_right])

/-- **~x**: pattern is the complement of x's pattern. -/
theorem invert_pattern (f : Fmt) (hw : 0 < f.nword) (o : Overflow) (c : ℤ) (h : f.InRange c) :
    f.InRange (invertM f o c) ∧ upat f.nword (invertM f o c) = 2 ^ f.nword - 1 - upat f.nword c := by
  rw [invertM_eq_wrap f hw o c h, upat_wrap, upat_compl]
  exact ⟨inRange_wrap f _, rfl⟩

theorem testBit_compl {n x : ℕ} (hx : x < 2 ^ n) (i : ℕ) :
    (2 ^ n - 1 - x).testBit i = (decide (i < n) && !x.testBit i) := by
  rw [Nat.sub_sub, Nat.add_comm]; exact Nat.testBit_two_pow_sub_succ hx i

/-- bit `i < n_word` of `~x` is the negation of bit `i` of `x`. -/
theorem invert_testBit (f : Fmt) (hw : 0 < f.nword) (o : Overflow) (c : ℤ) (h : f.InRange c) (i : ℕ) (hi : i < f.nword) :
    (upat f.nword (invertM f o c)).testBit i = !(upat f.nword c).testBit i := by
  rw [(invert_pattern f hw o c h).2, testBit_compl (upat_lt _ _), decide_eq_true hi, Bool.true_and]

/-- **~~x = x**. -/
theorem invert_invert (f : Fmt) (hw : 0 < f.nword) (o : Overflow) (c : ℤ) (h : f.InRange c) :
    invertM f o (invertM f o c) = c := by
  obtain ⟨r1, p1⟩ := invert_pattern f hw o c h
  obtain ⟨r2, p2⟩ := invert_pattern f hw o _ r1
  have hu := upat_lt f.nword c
  exact inRange_eq_of_upat_eq f hw r2 h (by rw [p2, p1, Nat.sub_sub_self (Nat.le_sub_one_of_lt hu)])

/-- **~x = -x - LSB** for signed x (in codes: `-c - 1`). -/
theorem invert_eq_neg_sub_lsb (f : Fmt) (hw : 0 < f.nword) (hs : f.signed = true) (o : Overflow) (c : ℤ)
    (h : f.InRange c) : invertM f o c = -c - 1 := by
  rw [invertM_eq_wrap f hw o c h]
  apply wrap_of_inRange f hw
  unfold Fmt.InRange Fmt.lo Fmt.hi at h ⊢; simp only [hs, if_true] at h ⊢; omega

/-- De Morgan on n-bit patterns. -/
theorem de_morgan_and (n x y : ℕ) (hx : x < 2 ^ n) (hy : y < 2 ^ n) :
    2 ^ n - 1 - (x &&& y) = (2 ^ n - 1 - x) ||| (2 ^ n - 1 - y) := by
  apply Nat.eq_of_testBit_eq
  intro i
  rw [Nat.testBit_or, testBit_compl (Nat.and_lt_two_pow _ hy), testBit_compl hx, testBit_compl hy, Nat.testBit_and]
  cases decide (i < n) <;> cases x.testBit i <;> cases y.testBit i <;> rfl

theorem de_morgan_or (n x y : ℕ) (hx : x < 2 ^ n) (hy : y < 2 ^ n) :
    2 ^ n - 1 - (x ||| y) = (2 ^ n - 1 - x) &&& (2 ^ n - 1 - y) := by
  apply Nat.eq_of_testBit_eq
  intro i
  rw [Nat.testBit_and, testBit_compl (Nat.or_lt_two_pow hx hy), testBit_compl hx, testBit_compl hy, Nat.testBit_or]
  cases decide (i < n) <;> cases x.testBit i <;> cases y.testBit i <;> rfl

/-- **De Morgan on stored objects**: `~(x & y) = ~x | ~y` (same word length, any signedness of `y`). -/
theorem de_morgan_codes (f g : Fmt) (hw : 0 < f.nword) (hg : g.nword = f.nword) (o : Overflow) (a b : ℤ)
    (ha : f.InRange a) (hb : g.InRange b) :
    invertM f o (bitwiseM .and f o a b) = bitwiseM .or f o (invertM f o a) (invertM g o b) := by
  obtain ⟨r1, p1⟩ := bitwise_pattern .and f hw o a b
  obtain ⟨r2, p2⟩ := invert_pattern f hw o _ r1
  obtain ⟨_, pa⟩ := invert_pattern f hw o a ha
  obtain ⟨_, pb⟩ := invert_pattern g (by omega) o b hb
  obtain ⟨r3, p3⟩ := bitwise_pattern .or f hw o (invertM f o a) (invertM g o b)
  rw [hg] at pb
  apply inRange_eq_of_upat_eq f hw r2 r3
  rw [p2, p1, p3, pa, pb]
  exact de_morgan_and f.nword _ _ (upat_lt _ _) (upat_lt _ _)

/-- the result always has x's format (the model stores into a copy of `x`), and operands of different
word lengths are rejected. -/
theorem wordlen_mismatch_errors (op : BitOp) (x y : Fmt) (o : Overflow) (a b : ℤ) (h : x.nword ≠ y.nword) :
    bitwiseFxp op x y o a b = none := if_pos h

theorem same_wordlen_ok (op : BitOp) (x y : Fmt) (o : Overflow) (a b : ℤ) (h : x.nword = y.nword) :
    bitwiseFxp op x y o a b = some (bitwiseM op x o a b) := if_neg (not_not.mpr h)

/-! non-vacuity -/
example : invertM ⟨true, 8, 0⟩ .saturate 5 = -6 := by decide +kernel
example : bitwiseM .and ⟨true, 8, 0⟩ .saturate (-1) 0x0F = 15 := by decide +kernel
example : bitwiseM .or ⟨false, 8, 0⟩ .saturate 0x80 (-128) = 128 := by decide +kernel

end Fxp.C13
