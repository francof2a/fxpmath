import FxpVerif.Props.C03
import FxpVerif.Props.C11
import FxpVerif.Props.C13
/-! # C18 — extended precision (n_word ≥ 64)

No new mathematics: the theorems of C01/C03/C11/C13 are unbounded in `n_word`. This file instantiates them
for the raw / integer-value routes and states the extended-precision indicator. -/
namespace Fxp.C18

/-- the extended-precision indicator of the model: `n_word ≥ 64` (`resize`, and it must survive `reset`). -/
def extFlag (f : Fmt) : Bool := decide (64 ≤ f.nword)

theorem ext_flag_iff (f : Fmt) : extFlag f = true ↔ 64 ≤ f.nword := decide_eq_true_iff

/-- a Python integer supplied as a **code** (`raw=True`): stored bit-exactly when in range … -/
theorem raw_in_range_exact (f : Fmt) (hw : 0 < f.nword) (o : Overflow) (k : ℤ) (h : f.InRange k) :
    storeRawInt f o k = k :=
  ovf_of_inRange o f hw k h

/-- … and saturated or wrapped exactly (C01 / C03) when not, for any width. -/
theorem raw_out_of_range (f : Fmt) (hw : 0 < f.nword) (k : ℤ) :
    (f.hi < k → storeRawInt f .saturate k = f.hi) ∧ (k < f.lo → storeRawInt f .saturate k = f.lo) ∧
    C03.Spec f k (storeRawInt f .wrap k) :=
  ⟨sat_above f k, sat_below f k, C03.wrap_spec f k⟩

/-- a Python integer supplied as a **value** into a format with `n_frac ≥ 0`: the Python-int object path
computes `v·2^n_frac` exactly and does not round. -/
theorem object_path_eq_quantize (f : Fmt) (r : Rounding) (o : Overflow) (v : ℤ) (hf : 0 ≤ f.nfrac) :
    storeIntShift f o v = quantize f r o (v : ℚ) :=
  (quantize_intCast f hf r o v).symm

/-- overflow / underflow flags of the raw store are the two comparisons (as in `storeFlags`); the statement says only that
`decide` decides them and does not mention the store. -/
theorem raw_flags_exact (f : Fmt) (k : ℤ) :
    (decide (f.hi < k) = true ↔ f.hi < k) ∧ (decide (k < f.lo) = true ↔ k < f.lo) :=
  ⟨decide_eq_true_iff, decide_eq_true_iff⟩

/-- rendering and parsing at any width (instances of C11). -/
theorem wide_bin_roundtrip (f : Fmt) (hw : 64 ≤ f.nword) (c : ℤ) (h : f.InRange c) :
    parseBinCode f.signed f.nword (binStr f c false ['0', 'b']) = some c :=
  C11.bin_roundtrip_raw f (by omega) (fun _ => by omega) c h

theorem wide_hex_roundtrip (f : Fmt) (hw : 64 ≤ f.nword) (c : ℤ) (h : f.InRange c) :
    parseHexCode f.signed f.nword (hexStr f c ['0', 'x']) = some c :=
  C11.hex_roundtrip_raw f (by omega) (fun _ => by omega) c h

/-- bitwise operators at any width (instance of C13). -/
theorem wide_bitwise (op : BitOp) (f : Fmt) (hw : 64 ≤ f.nword) (o : Overflow) (c m : ℤ) :
    f.InRange (bitwiseM op f o c m) ∧
    upat f.nword (bitwiseM op f o c m) = bitop op (upat f.nword c) (upat f.nword m) :=
  C13.bitwise_pattern op f (by omega) o c m

/-! non-vacuity at 128 bits -/
example : storeRawInt ⟨true, 128, 0⟩ .wrap (2 ^ 127) = -2 ^ 127 := by decide +kernel
example : storeRawInt ⟨false, 128, 64⟩ .saturate (2 ^ 200) = 2 ^ 128 - 1 := by decide +kernel
example : extFlag ⟨true, 64, 0⟩ = true ∧ extFlag ⟨true, 63, 0⟩ = false := by decide

end Fxp.C18
