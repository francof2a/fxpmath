import FxpVerif.Model.Status
import FxpVerif.Lemmas.Round
/-! # C04 — status flags and callbacks report exactly what happened, and are sticky -/
namespace Fxp.C04

/-- the three conditions of one write of the values `vs` (as the property words them). -/
def OvCond (f : Fmt) (r : Rounding) (vs : List ℚ) : Prop := ∃ v ∈ vs, f.hi < roundR r (scale v f.nfrac)
def UnCond (f : Fmt) (r : Rounding) (vs : List ℚ) : Prop := ∃ v ∈ vs, roundR r (scale v f.nfrac) < f.lo
def InaccCond (f : Fmt) (r : Rounding) (o : Overflow) (vs : List ℚ) : Prop :=
  ∃ v ∈ vs, valueOf f (quantize f r o v) ≠ v

/-- **flags of one write from a clean state**: overflow iff some rounded element exceeded the maximum, underflow iff
some was below the minimum, inaccuracy iff some stored element differs from its input. -/
theorem write_flags_iff (x : Obj) (hclean : x.ov = false ∧ x.un = false ∧ x.inacc = false) (vs : List ℚ) :
    ((step x (.write vs)).1.ov = true ↔ OvCond x.fmt x.r vs) ∧
    ((step x (.write vs)).1.un = true ↔ UnCond x.fmt x.r vs) ∧
    ((step x (.write vs)).1.inacc = true ↔ InaccCond x.fmt x.r x.o vs) := by
  obtain ⟨h1, h2, h3⟩ := hclean
  simp only [step, conds, h1, h2, h3, Bool.false_or]
  refine ⟨?_, ?_, ?_⟩
  · unfold OvCond; simp [List.any_eq_true]
  · unfold UnCond; simp [List.any_eq_true]
  · -- each code is compared with the scaled input it was made from
    rw [List.map_map, List.zipWith_map_left, List.zipWith_self]
    simp only [InaccCond, List.any_map, List.any_eq_true, Function.comp_apply, id, decide_eq_true_eq, Ne, valueOf_eq_iff,
      quantize]

/-- **callback trace of one write**: exactly the conditions that occurred in this write — each at most once, in the
order overflow, underflow, inaccuracy — followed by exactly one value-change notification. -/
theorem write_trace_exact (ov un ia : Bool) :
    events ov un ia = (if ov then "o" else "") ++ (if un then "u" else "") ++ (if ia then "i" else "") ++ "c" ∧
    (events ov un ia).toList.count 'c' = 1 ∧
    (events ov un ia).toList.count 'o' = (if ov then 1 else 0) ∧
    (events ov un ia).toList.count 'u' = (if un then 1 else 0) ∧
    (events ov un ia).toList.count 'i' = (if ia then 1 else 0) := by
  cases ov <;> cases un <;> cases ia <;> decide

theorem step_monotone (x : Obj) (s : Step) (hs : s ≠ .reset) :
    (x.ov = true → (step x s).1.ov = true) ∧ (x.un = true → (step x s).1.un = true) ∧
    (x.inacc = true → (step x s).1.inacc = true) := by
  cases s with
  | reset => exact absurd rfl hs
  | write | windex | resize => simp only [step]; refine ⟨?_, ?_, ?_⟩ <;> intro h <;> simp [h]
  | derive y => exact ⟨id, id, id⟩

/-- **stickiness**: along any history without `reset`, a raised flag stays raised (induction over the history). -/
theorem flags_sticky (x : Obj) (hist : List Step) (hnr : ∀ s ∈ hist, s ≠ .reset) :
    (x.ov = true → (runState x hist).ov = true) ∧ (x.un = true → (runState x hist).un = true) ∧
    (x.inacc = true → (runState x hist).inacc = true) := by
  induction hist generalizing x with
  | nil => exact ⟨id, id, id⟩
  | cons s rest ih =>
    obtain ⟨m1, m2, m3⟩ := step_monotone x s (hnr s List.mem_cons_self)
    obtain ⟨i1, i2, i3⟩ := ih (step x s).1 (fun t ht => hnr t (List.mem_cons_of_mem _ ht))
    exact ⟨fun h => i1 (m1 h), fun h => i2 (m2 h), fun h => i3 (m3 h)⟩

/-- a flag raised at some point of a history is raised after every later step, as long as none of the later steps is a `reset`. -/
theorem flags_sticky_prefix (x : Obj) (pre post : List Step) (hnr : ∀ s ∈ post, s ≠ .reset) :
    ((runState x pre).ov = true → (runState x (pre ++ post)).ov = true) ∧
    ((runState x pre).un = true → (runState x (pre ++ post)).un = true) ∧
    ((runState x pre).inacc = true → (runState x (pre ++ post)).inacc = true) := by
  have happ : ∀ (y : Obj) (a b : List Step), runState y (a ++ b) = runState (runState y a) b := by
    intro y a; induction a generalizing y with
    | nil => intro b; rfl
    | cons s t ih => intro b; exact ih (step y s).1 b
  rw [happ]
  exact flags_sticky _ post hnr

/-- **reset** clears the three flags and leaves everything else (format, configuration, value) as it was. -/
theorem reset_clears (x : Obj) :
    (step x .reset).1.ov = false ∧ (step x .reset).1.un = false ∧ (step x .reset).1.inacc = false ∧
    (step x .reset).1.fmt = x.fmt ∧ (step x .reset).1.codes = x.codes ∧ (step x .reset).1.r = x.r ∧ (step x .reset).1.o = x.o ∧
    (step x .reset).2 = "" := ⟨rfl, rfl, rfl, rfl, rfl, rfl, rfl, rfl⟩

/-- **arithmetic results carry the inaccuracy flag** whenever an operand carried it (`"z1"`: the derived object's flag as observed). -/
theorem derive_inacc_propagates (x : Obj) (yInacc : Bool) :
    (x.inacc = true ∨ yInacc = true) → (step x (.derive yInacc)).2 = "z1" := by
  intro h; simp only [step]
  rcases h with h | h <;> simp [h]

/-! non-vacuity: a history that raises, keeps and clears flags -/
def x0 : Obj := ⟨⟨true, 4, 0⟩, .trunc, .saturate, [0], false, false, false⟩
example : (runState x0 [.write [9]]).ov = true ∧ (runState x0 [.write [9]]).inacc = true := by decide +kernel
example : (runState x0 [.write [9], .write [1], .write [-20]]).ov = true ∧
    (runState x0 [.write [9], .write [1], .write [-20]]).un = true := by decide +kernel
example : (runState x0 [.write [9], .reset, .write [3]]).ov = false ∧
    (runState x0 [.write [9], .reset, .write [3]]).inacc = false := by decide +kernel
example : (runState x0 [.write [1/2]]).inacc = true ∧ (runState x0 [.write [1/2]]).codes = [0] := by decide +kernel

end Fxp.C04
