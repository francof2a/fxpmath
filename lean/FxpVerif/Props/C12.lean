import FxpVerif.Model.Dtype
import FxpVerif.Lemmas.Digits
/-! # C12 — dtype strings and formats determine each other in every notation -/
namespace Fxp.C12

/-- "the next character is not a decimal digit" (where greedy `\d+` stops). -/
def NoDigitHead (rest : List Char) : Prop := ∀ c, rest.head? = some c → isDecDigit c = false

theorem noDigit_nil : NoDigitHead [] := fun _ h => nomatch h

theorem noDigit_cons {c : Char} (h : isDecDigit c = false) (r : List Char) : NoDigitHead (c :: r) :=
  fun _ h' => Option.some.inj h' ▸ h

theorem parseDec_digits (ds : List Nat) (hne : ds ≠ []) (h : ∀ d ∈ ds, d < 10) (rest : List Char)
    (hr : NoDigitHead rest) : parseDec (ds.map digitChar ++ rest) = some (parseDigits 10 ds, rest) := by
  unfold parseDec
  rw [spanDec_digits ds h rest hr]
  cases ds with
  | nil => exact absurd rfl hne
  | cons d ds =>
    show (parseChars 10 ((d :: ds).map digitChar)).map _ = _
    rw [parseChars_digits 10 (by decide) _ h]; rfl

theorem parseDec_natStr (n : Nat) (rest : List Char) (hr : NoDigitHead rest) :
    parseDec (natStr n ++ rest) = some (n, rest) := by
  have := parseDec_digits _ (natDigits_ne_nil 10 (by decide) n) (natDigits_lt 10 (by decide) n) rest hr
  rwa [parse_natDigits 10 (by decide)] at this

theorem parseSignedDec_of_parseDec {cs : List Char} {p : Nat × List Char} (h : parseDec cs = some p) :
    parseSignedDec cs = some ((p.1 : Int), p.2) := by
  unfold parseSignedDec
  split
  · exact nomatch h  -- `parseDec ('-' :: _)` evaluates to `none`
  · exact nomatch h
  · rw [h]; rfl

theorem parseSignedDec_intStr (z : Int) (rest : List Char) (hr : NoDigitHead rest) :
    parseSignedDec (intStr z ++ rest) = some (z, rest) := by
  have hp := parseDec_natStr z.natAbs rest hr
  unfold intStr
  by_cases hz : z < 0
  · rw [if_pos hz]
    show (parseDec (natStr z.natAbs ++ rest)).map (fun p => (-(p.1 : Int), p.2)) = some (z, rest)
    rw [hp, Option.map_some, ← Int.eq_neg_natAbs_of_nonpos hz.le]
  · rw [if_neg hz, parseSignedDec_of_parseDec hp, Int.natAbs_of_nonneg (not_lt.mp hz)]

theorem lower_digit : ∀ d, d < 10 → lowerChar (digitChar d) = digitChar d := by decide +kernel

theorem lower_natStr (n : Nat) : (natStr n).map lowerChar = natStr n := by
  unfold natStr
  rw [List.map_map]
  -- `comp_apply` is applied by hand: if `lowerChar ∘ digitChar` is left for `lower_digit` to unify with, Lean unfolds `lowerChar`
  -- (a large `match`) before it unfolds `∘`
  exact List.map_congr_left fun d hd =>
    (Function.comp_apply ..).trans (lower_digit d (natDigits_lt 10 (by decide) n d hd))

theorem lower_intStr (z : Int) : (intStr z).map lowerChar = intStr z := by
  unfold intStr
  split
  · rw [List.map_cons, lower_natStr]; rfl
  · exact lower_natStr _

theorem lower_renderFxp (f : Fmt) (cx : Bool) : (renderFxp f cx).map lowerChar = renderFxp f cx := by
  unfold renderFxp
  simp only [List.map_cons, List.map_append, lower_natStr, lower_intStr]
  cases f.signed <;> cases cx <;> rfl

theorem lower_renderQ (f : Fmt) :
    (renderQ f).map lowerChar =
      if f.signed then 'q' :: (intStr ((f.nword : Int) - f.nfrac) ++ ('.' :: intStr f.nfrac))
      else 'u' :: 'q' :: (intStr ((f.nword : Int) - f.nfrac) ++ ('.' :: intStr f.nfrac)) := by
  unfold renderQ
  simp only [List.map_cons, List.map_append, lower_intStr]
  cases f.signed <;> rfl

theorem parseFxpBody_render (sg : Bool) (w : Nat) (n : Int) (rest : List Char) (hr : NoDigitHead rest) :
    parseFxpBody ((if sg then 's' else 'u') :: (natStr w ++ ('/' :: (intStr n ++ rest)))) =
      some (sg, (w : Int), n, complexSuffix.isPrefixOf rest) := by
  rw [show parseFxpBody (_ :: _) = if _ then parseFxpTail _ _ else none from rfl]
  unfold parseFxpTail
  rw [parseDec_natStr w _ (noDigit_cons rfl _)]
  simp only
  rw [parseSignedDec_intStr n rest hr]
  cases sg <;> rfl

/-- no alternative of `(s|u|q|uq|qu)` starts with `f`. -/
theorem parseQ_f (r : List Char) : parseQ ('f' :: r) = none := rfl

theorem parseFxp_cons (r : List Char) : parseFxp ('f' :: 'x' :: 'p' :: '-' :: r) = parseFxpBody r := rfl

/-- **fxp notation round trip**: parsing the rendered dtype returns exactly the format — every word length,
every fraction length in ℤ (negative and oversized included), with or without the complex suffix. -/
theorem parse_render_fxp (f : Fmt) (cx : Bool) :
    parseFormatStr (renderFxp f cx) = some (f.signed, (f.nword : Int), f.nfrac, cx) := by
  have hnd : NoDigitHead (if cx then complexSuffix else []) := by
    cases cx
    · exact noDigit_nil
    · exact noDigit_cons rfl _
  unfold parseFormatStr
  rw [lower_renderFxp]
  unfold renderFxp
  rw [parseQ_f, parseFxp_cons, parseFxpBody_render _ _ _ _ hnd]
  cases cx <;> rfl

theorem parseQBody_render (m : Nat) (n : Int) (rest : List Char) (hr : NoDigitHead rest) :
    parseQBody (natStr m ++ ('.' :: (intStr n ++ rest))) = some ((m : Int) + n, n) := by
  unfold parseQBody
  rw [parseDec_natStr m _ (noDigit_cons rfl _)]
  simp only
  rw [parseSignedDec_intStr n rest hr]

theorem parseQ_q {body : List Char} {r : Int × Int} (h : parseQBody body = some r) :
    parseQ ('q' :: body) = some (true, r.1, r.2) := by
  unfold parseQ
  rw [show tryTag ['s'] true ('q' :: body) = none from rfl, show tryTag ['u'] false ('q' :: body) = none from rfl,
    show tryTag ['q'] true ('q' :: body) = (parseQBody body).map _ from rfl, h]
  rfl

/-- the alternative `u` matches but no digit follows: the regex backtracks, and `uq` matches. -/
theorem parseQ_uq {body : List Char} {r : Int × Int} (h : parseQBody body = some r) :
    parseQ ('u' :: 'q' :: body) = some (false, r.1, r.2) := by
  unfold parseQ
  rw [show tryTag ['s'] true ('u' :: 'q' :: body) = none from rfl,
    show tryTag ['u'] false ('u' :: 'q' :: body) = none from rfl,
    show tryTag ['q'] true ('u' :: 'q' :: body) = none from rfl,
    show tryTag ['u', 'q'] false ('u' :: 'q' :: body) = (parseQBody body).map _ from rfl, h]
  rfl

/-- **Q / UQ notation**: `m.n` denotes `n_word = m + n` with the sign bit counted in `m`; the rendered string
parses back whenever `m = n_word - n_frac ≥ 0`. -/
theorem parse_render_Q (f : Fmt) (hm : f.nfrac ≤ (f.nword : Int)) :
    parseFormatStr (renderQ f) = some (f.signed, (f.nword : Int), f.nfrac, false) := by
  have hstr : intStr ((f.nword : Int) - f.nfrac) = natStr ((f.nword : Int) - f.nfrac).natAbs := if_neg (by omega)
  have hbody := parseQBody_render ((f.nword : Int) - f.nfrac).natAbs f.nfrac [] noDigit_nil
  rw [List.append_nil, show (((f.nword : Int) - f.nfrac).natAbs : Int) + f.nfrac = f.nword by omega] at hbody
  unfold parseFormatStr
  rw [lower_renderQ, hstr]
  cases f.signed
  · rw [if_neg Bool.false_ne_true, parseQ_uq hbody]
  · rw [if_pos rfl, parseQ_q hbody]

/-- parsing is case-insensitive: the string is ASCII-casefolded first, so any mix of cases parses alike. -/
theorem parse_casefold (s t : List Char) (h : s.map lowerChar = t.map lowerChar) :
    parseFormatStr s = parseFormatStr t := by
  unfold parseFormatStr; rw [h]

/-- `get_dtype(notation)` renders the requested notation, whatever the configured default. -/
theorem get_dtype_notation (n : Notation) (f : Fmt) (cx : Bool) :
    renderDtype n f cx = match n with | .fxp => renderFxp f cx | .Q => renderQ f := by
  cases n <;> rfl

/-- the fxp dtype string determines the format (render is injective). -/
theorem render_injective (f g : Fmt) (cf cg : Bool) (h : renderFxp f cf = renderFxp g cg) : f = g ∧ cf = cg := by
  have h1 := parse_render_fxp g cg
  rw [← h, parse_render_fxp f cf, Option.some.injEq, Prod.mk.injEq, Prod.mk.injEq, Prod.mk.injEq, Nat.cast_inj] at h1
  obtain ⟨a, b, c, d⟩ := h1
  cases f; cases g
  exact ⟨by congr, d⟩

/-! non-vacuity -/
example : String.ofList (renderFxp ⟨true, 16, -3⟩ true) = "fxp-s16/-3-complex" := by decide +kernel
example : String.ofList (renderQ ⟨false, 8, 3⟩) = "UQ5.3" := by decide +kernel
example : parseFormatStr "S5.3".toList = some (true, 8, 3, false) := by decide +kernel
example : parseFormatStr "Q-2.10".toList = none := by decide +kernel

end Fxp.C12
