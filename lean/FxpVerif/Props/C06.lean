import FxpVerif.Lemmas.Infer
import FxpVerif.Props.C05
import FxpVerif.Lemmas.Range
/-! # C06 — size inference picks the smallest format that holds the values exactly -/
namespace Fxp.C06

/-! ### the scaled extremes -/

/-- for a non-negative fraction length (every inferred one, and a given non-negative one) the scaled extreme is `int(v * 2^n_frac)`. -/
theorem scaledExt_natCast (n : ℕ) (v : ℚ) : scaledExt (n : ℤ) v = truncInt (v * ((2 ^ ((n : ℤ)).toNat : ℕ) : ℚ)) :=
  if_pos (Int.natCast_nonneg n)

theorem scaledExt_nat (n : ℕ) (v : ℚ) : scaledExt (n : ℤ) v = truncInt (v * 2 ^ n) := by
  rw [scaledExt_natCast, Int.toNat_natCast, Nat.cast_pow, Nat.cast_ofNat]

/-- for a negative given fraction length the scaled extreme is `int(v / 2^k)` (toward zero). -/
theorem scaledExt_neg (k : ℕ) (hk : 1 ≤ k) (v : ℚ) : scaledExt (-(k : ℤ)) v = truncInt (v / ((2 ^ k : ℕ) : ℚ)) := by
  rw [scaledExt, if_neg (by omega), neg_neg, Int.toNat_natCast]

/-- `int(x)` is the `trunc` rounding, which the model writes out a second time. -/
theorem truncInt_int (z : ℤ) : truncInt (z : ℚ) = z := roundR_int .trunc z

theorem scaledExt_of_grid {v : ℚ} {n : ℕ} {k : ℤ} (h : v * 2 ^ n = k) : scaledExt (n : ℤ) v = k := by
  rw [scaledExt_nat, h, truncInt_int]

/-! ### the two search loops, as `bestSizes` calls them -/

theorem isInt_mod1_iff (v : ℚ) (i : ℕ) : IsInt (mod1 v * 2 ^ i) ↔ IsInt (v * 2 ^ i) := by
  have hf : IsInt ((v.floor : ℚ) * 2 ^ i) := IsInt.mul ⟨_, rfl⟩ (isInt_two_pow i)
  rw [mod1, sub_mul]
  exact ⟨fun h => sub_add_cancel (v * 2 ^ i) _ ▸ h.add hf, fun h => h.sub hf⟩

/-- **fraction-bit search**: for a dyadic value with at most 62 fraction bits, the loop returns the least
number of fraction bits that makes the value exact. -/
theorem fracBits_min (sign : ℕ) (hs : sign ≤ 1) (v : ℚ) (F : ℕ) (hF : F ≤ 62) (hv : IsInt (v * 2 ^ F)) :
    IsInt (v * 2 ^ fracBits sign v) ∧ ∀ i, i < fracBits sign v → ¬ IsInt (v * 2 ^ i) := by
  -- `mod1 v` is `Int.fract v` by definition
  have inv : FracInv F (mod1 v) (mod1 v) 0 :=
    ⟨Int.fract_nonneg v, half_pow_zero ▸ Int.fract_lt_one v, ⟨0, by rw [sub_self, zero_mul, Int.cast_zero]⟩,
      (isInt_mod1_iff v F).mpr hv⟩
  have he : 0 < mod1 v → maxError < 1 := fun _ => half_pow_zero ▸ half_pow_strictAnti (Nat.succ_pos 62)
  obtain ⟨a1, _, a3, a4⟩ := fracLoop_spec F hF ((nWordMax : ℤ) - sign) (by unfold nWordMax; omega) (mod1 v) 80 0
    (mod1 v) 1 (by omega) inv he
  refine ⟨(isInt_mod1_iff v _).mp a1, fun i hi h => ?_⟩
  rcases inv.nonneg.eq_or_lt with h0 | hr
  · exact absurd hi (by rw [fracBits, a4 h0.symm]; exact Nat.not_lt_zero i)
  · exact a3 hr i (Nat.zero_le i) hi ((isInt_mod1_iff v i).mpr h)

theorem fracBits_le_iff (sign : ℕ) (hs : sign ≤ 1) (v : ℚ) (F : ℕ) (hF : F ≤ 62) (hv : IsInt (v * 2 ^ F)) (i : ℕ) :
    fracBits sign v ≤ i ↔ IsInt (v * 2 ^ i) :=
  have h := fracBits_min sign hs v F hF hv
  ⟨fun hi => isInt_mul_pow hi h.1, fun hi => not_lt.mp fun hlt => h.2 i hlt hi⟩

theorem maxFracBits_le_iff (sign : ℕ) (hs : sign ≤ 1) (vals : List ℚ) (F : ℕ) (hF : F ≤ 62)
    (hgrid : ∀ v ∈ vals, IsInt (v * 2 ^ F)) (i : ℕ) :
    maxNat (vals.map (fracBits sign)) ≤ i ↔ ∀ v ∈ vals, IsInt (v * 2 ^ i) := by
  rw [maxNat_le_iff, List.forall_mem_map]
  exact forall₂_congr fun v hv => fracBits_le_iff sign hs v F hF (hgrid v hv) i

/-- **integer-bit search**: the loop returns the least number of magnitude bits in which both scaled extremes
fit — two's-complement asymmetry included (`-2^k` needs one bit fewer than `2^k`). -/
theorem intBits_min (vmax vmin : ℤ) :
    let n := intLoop (vmax.natAbs + vmin.natAbs + 2) vmax vmin 0
    (Chk.fitsBits vmax n = true ∧ Chk.fitsBits vmin n = true) ∧
    ∀ j, j < n → ¬ (Chk.fitsBits vmax j = true ∧ Chk.fitsBits vmin j = true) := by
  obtain ⟨a1, _, a3⟩ := intLoop_spec vmax vmin (vmax.natAbs + vmin.natAbs + 2) 0 (by omega)
  exact ⟨a1, fun j hj => a3 j (Nat.zero_le j) hj⟩

example : Chk.fitsBits (-8) 3 = true ∧ Chk.fitsBits 8 3 = false := by decide

/-! ### what fits the magnitude bits is stored as it is -/

theorem inRange_of_fitsBits (g : Fmt) (k : ℤ) (hf : Chk.fitsBits k g.mag = true)
    (hu : g.signed = false → 0 ≤ k) : g.InRange k :=
  have ⟨h1, h2⟩ := (fitsBits_iff k _).mp hf
  (inRange_iff_fits g k).mpr ⟨hu, h1, h2⟩

theorem store_exact_of_fitsBits (g : Fmt) (hw : 0 < g.nword) {n : ℕ} (hn : g.nfrac = n) {v : ℚ} {k : ℤ}
    (hk : v * 2 ^ n = k) (hf : Chk.fitsBits k g.mag = true) (hu : g.signed = false → 0 ≤ v)
    (r : Rounding) (o : Overflow) :
    valueOf g (quantize g r o v) = v ∧ storeFlags g r o v = ⟨false, false, false⟩ := by
  have hin : g.InRange k := inRange_of_fitsBits g k hf fun hs =>
    Int.cast_nonneg_iff.mp (hk ▸ mul_nonneg (hu hs) (by positivity))
  obtain rfl : valueOf g k = v := (valueOf_eq_iff g k v).mpr (by rw [hn, scale_eq, zpow_natCast, hk])
  have := C05.store_idempotent g hw r o k hin
  exact ⟨congrArg (valueOf g) this.1, this.2⟩

/-- a value on the `2^-n` grid scales to an integer (`IsInt` spelt out). -/
theorem scaled_int (v : ℚ) (n : ℕ) (h : IsInt (v * 2 ^ n)) : ∃ k : ℤ, v * 2 ^ n = k := h

/-! ### what `bestSizes` computes -/

/-- `bestSizes` for every combination of given sizes, with the integer-bit loop replaced by what it returns (`bits`). The two
`n_word` branches of the definition differ only in which word the fraction length has to leave room in, hence the `getD`s.
`nf0`, `kM`, `km` come with equations so that callers can hand in the extremes already rewritten (`scaledExt_nat`, `scaledExt_neg`). -/
theorem bestSizes_spec {sg : Bool} {vals : List ℚ} {nword nfrac : Option ℤ} {w f : ℤ}
    (hb : bestSizes sg vals nword nfrac = (w, f)) {nf0 kM km : ℤ}
    (hnf : nfrac.getD ↑(maxNat (vals.map (fracBits (if sg then 1 else 0)))) = nf0)
    (hM : scaledExt nf0 (listMaxR vals) = kM) (hm : scaledExt nf0 (listMinR vals) = km) :
    ∃ bits : ℕ, (Chk.fitsBits kM bits = true ∧ Chk.fitsBits km bits = true) ∧
      (∀ j, j < bits → ¬ (Chk.fitsBits kM j = true ∧ Chk.fitsBits km j = true)) ∧
      f = min (nword.getD 64 - (if sg then 1 else 0) - max (bits - nf0) 0) nf0 ∧
      w = min (nword.getD (f + max (bits - nf0) 0 + (if sg then 1 else 0))) 64 := by
  subst hnf hM hm
  obtain ⟨hfit, hmin⟩ := intBits_min (scaledExt _ (listMaxR vals)) (scaledExt _ (listMinR vals))
  refine ⟨_, hfit, hmin, ?_⟩
  cases nword <;> cases nfrac <;> cases sg <;> obtain ⟨rfl, rfl⟩ := Prod.mk.inj hb <;> exact ⟨rfl, rfl⟩

/-- a word below the cap means that the fraction length was not cut to make room. -/
theorem eq_of_lt_cap {s n nf0 f w : ℤ} (h : f = min (64 - s - n) nf0 ∧ w = min (f + n + s) 64) (hcap : w < 64) :
    f = nf0 ∧ w = nf0 + n + s := by
  omega

/-- that `bits` is minimal, said of the `bits - nf` integer bits above `nf` fraction bits. -/
theorem nint_min {P : ℕ → Prop} {bits : ℕ} (hmin : ∀ j, j < bits → ¬ P j) (nf : ℕ) :
    bits - nf = 0 ∨ ¬ P (nf + (bits - nf) - 1) :=
  or_iff_not_imp_left.mpr fun _ => hmin _ (by omega)

theorem grid_fits_iff {vals : List ℚ} (hne : vals ≠ []) {n : ℕ} (hall : ∀ v ∈ vals, IsInt (v * 2 ^ n)) (j : ℕ) :
    (Chk.fitsBits (scaledExt n (listMaxR vals)) j = true ∧ Chk.fitsBits (scaledExt n (listMinR vals)) j = true) ↔
      ∀ v ∈ vals, ∀ k : ℤ, v * 2 ^ n = k → Chk.fitsBits k j = true := by
  obtain ⟨hM, leM⟩ := listMaxR_spec vals hne
  obtain ⟨hm, lem⟩ := listMinR_spec vals hne
  obtain ⟨kM, hkM⟩ := hall _ hM
  obtain ⟨km, hkm⟩ := hall _ hm
  rw [scaledExt_of_grid hkM, scaledExt_of_grid hkm]
  refine ⟨fun h v hv k hk => ?_, fun h => ⟨h _ hM kM hkM, h _ hm km hkm⟩⟩
  have hp : (0:ℚ) ≤ 2 ^ n := by positivity
  have h1 := mul_le_mul_of_nonneg_right (lem v hv) hp
  have h2 := mul_le_mul_of_nonneg_right (leM v hv) hp
  rw [hkm, hk, Int.cast_le] at h1
  rw [hk, hkM, Int.cast_le] at h2
  exact fitsBits_between h1 h2 h.2 h.1

/-- sizes inferred with `n_frac` left open, for dyadic inputs and any `n_word`: what `infer_exact_minimal` and
`infer_nword_given` share (`nf`, `nint` as explained there). -/
theorem bestSizes_grid (sg : Bool) (vals : List ℚ) (hne : vals ≠ []) (F : ℕ) (hF : F ≤ 62)
    (hgrid : ∀ v ∈ vals, IsInt (v * 2 ^ F)) (nword : Option ℤ) (w f : ℤ) (hb : bestSizes sg vals nword none = (w, f)) :
    ∃ nf nint : ℕ,
      (∀ v ∈ vals, IsInt (v * 2 ^ nf)) ∧ (nf = 0 ∨ ∃ v ∈ vals, ¬ IsInt (v * 2 ^ (nf - 1))) ∧
      (∀ v ∈ vals, ∀ k : ℤ, v * 2 ^ nf = k → Chk.fitsBits k (nf + nint) = true) ∧
      (nint = 0 ∨ ∃ v ∈ vals, ∃ k : ℤ, v * 2 ^ nf = k ∧ Chk.fitsBits k (nf + nint - 1) = false) ∧
      f = min (nword.getD 64 - (if sg then 1 else 0) - nint) nf ∧
      w = min (nword.getD (f + nint + (if sg then 1 else 0))) 64 := by
  have hnf := maxFracBits_le_iff (if sg then 1 else 0) (by split <;> omega) vals F hF hgrid
  have hall := (hnf _).mp le_rfl
  obtain ⟨bits, hfit, hmin, hfw⟩ := bestSizes_spec (nf0 := (maxNat _ : ℕ)) hb rfl rfl rfl
  -- `max (bits − nf) 0` in ℤ is the truncated difference `bits - nf` in ℕ: the integer bits
  rw [← Int.toNat_eq_max, Int.toNat_sub] at hfw
  refine ⟨_, _, hall, or_iff_not_imp_left.mpr fun h => ?_,
    fun v hv k hk => fitsBits_mono k le_add_tsub ((grid_fits_iff hne hall bits).mp hfit v hv k hk),
    (nint_min hmin _).imp_right fun h => ?_, hfw⟩
  · simpa only [not_forall, exists_prop] using (hnf _).not.mp (not_le.mpr (Nat.sub_one_lt h))
  · simpa only [not_forall, exists_prop, Bool.not_eq_true] using (grid_fits_iff hne hall _).not.mp h

/-! ### the property, case by case -/

/-- **C06, sizes left unspecified (uncapped)**: for dyadic inputs the inferred format
* stores every value exactly, with no flag, under every rounding/overflow configuration,
* has the fewest fraction bits that make all values exact,
* and, with those fraction bits, the fewest word bits (non-negative integer length, plus sign) holding all of them. -/
theorem infer_exact_minimal (sg : Bool) (vals : List ℚ) (hne : vals ≠ []) (F : ℕ) (hF : F ≤ 62)
    (hgrid : ∀ v ∈ vals, IsInt (v * 2 ^ F)) (hu : sg = false → ∀ v ∈ vals, 0 ≤ v)
    (w f : ℤ) (hb : bestSizes sg vals none none = (w, f)) (hcap : w < 64) (hw : 0 < w) :
    ∃ nf nint : ℕ, f = nf ∧ w = (nf : ℤ) + nint + (if sg then 1 else 0) ∧
      (∀ v ∈ vals, ∀ (r : Rounding) (o : Overflow),
        valueOf ⟨sg, w.toNat, f⟩ (quantize ⟨sg, w.toNat, f⟩ r o v) = v ∧
        storeFlags ⟨sg, w.toNat, f⟩ r o v = ⟨false, false, false⟩) ∧
      (nf = 0 ∨ ∃ v ∈ vals, ¬ IsInt (v * 2 ^ (nf - 1))) ∧
      (nint = 0 ∨ ∃ v ∈ vals, ∃ k : ℤ, v * 2 ^ nf = k ∧ Chk.fitsBits k (nf + nint - 1) = false) := by
  obtain ⟨nf, nint, hall, hnf, hfit, hnint, hfw⟩ := bestSizes_grid sg vals hne F hF hgrid none w f hb
  replace hfw := eq_of_lt_cap hfw hcap
  refine ⟨nf, nint, hfw.1, hfw.2, fun v hv r o => ?_, hnf, hnint⟩
  obtain ⟨k, hk⟩ := hall v hv
  refine store_exact_of_fitsBits ⟨sg, w.toNat, f⟩ (Int.pos_iff_toNat_pos.mp hw) hfw.1 hk
    (fitsBits_mono k ?_ (hfit v hv k hk)) (fun hsg => hu hsg v hv) r o
  have hs : ((if sg then 1 else 0 : ℕ) : ℤ) = if sg then 1 else 0 := by split <;> rfl
  show nf + nint ≤ w.toNat - (if sg then 1 else 0)
  omega

/-- **C06, only `n_word` given**: the fraction length is the largest that still leaves room for the integer part,
capped at the exact one. Here `nf` is the exact fraction length (fewest bits making every value exact) and `nint` the
fewest integer bits holding every exactly-scaled value; the inferred format is `(n_word, min (n_word - sign - nint) nf)`. -/
theorem infer_nword_given (sg : Bool) (vals : List ℚ) (hne : vals ≠ []) (F : ℕ) (hF : F ≤ 62)
    (hgrid : ∀ v ∈ vals, IsInt (v * 2 ^ F)) (wq w f : ℤ) (hwq : wq ≤ 64)
    (hb : bestSizes sg vals (some wq) none = (w, f)) :
    ∃ nf nint : ℕ,
      (∀ v ∈ vals, IsInt (v * 2 ^ nf)) ∧ (nf = 0 ∨ ∃ v ∈ vals, ¬ IsInt (v * 2 ^ (nf - 1))) ∧
      (∀ v ∈ vals, ∃ k : ℤ, v * 2 ^ nf = k ∧ Chk.fitsBits k (max (nf + nint) nf) = true) ∧
      (nint = 0 ∨ ∃ v ∈ vals, ∃ k : ℤ, v * 2 ^ nf = k ∧ Chk.fitsBits k (nf + nint - 1) = false) ∧
      w = wq ∧ f = min (wq - (if sg then 1 else 0) - nint) nf := by
  obtain ⟨nf, nint, hall, hnf, hfit, hnint, hf, hw'⟩ := bestSizes_grid sg vals hne F hF hgrid (some wq) w f hb
  refine ⟨nf, nint, hall, hnf, fun v hv => ?_, hnint, hw'.trans (min_eq_left hwq), hf⟩
  obtain ⟨k, hk⟩ := hall v hv
  exact ⟨k, hk, fitsBits_mono k (le_max_left _ _) (hfit v hv k hk)⟩

/-- **C06, only `n_frac` given** (`n_frac ≥ 0`, result below the cap): the fraction length is kept and the word is minimal —
`n_frac + nint + sign` where `nint` is the fewest integer bits such that both extremes, truncated to the `2^-n_frac` grid,
fit in `n_frac + nint` magnitude bits (one bit fewer no longer holds one of them). -/
theorem infer_nfrac_given (sg : Bool) (vals : List ℚ) (fq : ℕ) (w f : ℤ)
    (hb : bestSizes sg vals none (some (fq : ℤ)) = (w, f)) (hcap : w < 64) :
    ∃ nint : ℕ, f = fq ∧ w = (fq : ℤ) + nint + (if sg then 1 else 0) ∧
      Chk.fitsBits (truncInt (listMaxR vals * 2 ^ fq)) (max (fq + nint) fq) = true ∧
      Chk.fitsBits (truncInt (listMinR vals * 2 ^ fq)) (max (fq + nint) fq) = true ∧
      (nint = 0 ∨ ¬ (Chk.fitsBits (truncInt (listMaxR vals * 2 ^ fq)) (fq + nint - 1) = true ∧
                     Chk.fitsBits (truncInt (listMinR vals * 2 ^ fq)) (fq + nint - 1) = true)) := by
  obtain ⟨bits, hfit, hmin, hfw⟩ := bestSizes_spec (nf0 := fq) hb rfl (scaledExt_nat fq _) (scaledExt_nat fq _)
  replace hfw := eq_of_lt_cap hfw hcap
  rw [← Int.toNat_eq_max, Int.toNat_sub] at hfw
  have hle : bits ≤ max (fq + (bits - fq)) fq := le_add_tsub.trans (le_max_left _ _)
  exact ⟨bits - fq, hfw.1, hfw.2, fitsBits_mono _ hle hfit.1, fitsBits_mono _ hle hfit.2, nint_min hmin fq⟩

/-- **only a negative `n_frac` given** (D49: the pinned tree raised `ValueError` here): the fraction length is kept and the word is the
fewest bits (plus the sign bit) that hold the truncated extremes `int(v / 2^k)` — "if only n_frac is given the word is minimal". -/
theorem infer_nfrac_given_neg (sg : Bool) (vals : List ℚ) (k : ℕ) (hk : 1 ≤ k) (w f : ℤ)
    (hb : bestSizes sg vals none (some (-(k : ℤ))) = (w, f)) (hcap : w < 64) :
    ∃ bits : ℕ, f = -(k : ℤ) ∧ w = (bits : ℤ) + (if sg then 1 else 0) ∧
      Chk.fitsBits (truncInt (listMaxR vals / ((2 ^ k : ℕ) : ℚ))) bits = true ∧
      Chk.fitsBits (truncInt (listMinR vals / ((2 ^ k : ℕ) : ℚ))) bits = true ∧
      (bits = 0 ∨ ¬ (Chk.fitsBits (truncInt (listMaxR vals / ((2 ^ k : ℕ) : ℚ))) (bits - 1) = true ∧
                     Chk.fitsBits (truncInt (listMinR vals / ((2 ^ k : ℕ) : ℚ))) (bits - 1) = true)) := by
  obtain ⟨bits, hfit, hmin, hfw⟩ :=
    bestSizes_spec (nf0 := -(k : ℤ)) hb rfl (scaledExt_neg k hk _) (scaledExt_neg k hk _)
  replace hfw := eq_of_lt_cap hfw hcap
  exact ⟨bits, hfw.1, by omega, hfit.1, hfit.2, or_iff_not_imp_left.mpr fun h => hmin _ (Nat.sub_one_lt h)⟩

example : bestSizes true [1024] none (some (-3)) = (9, -3) := by decide +kernel      -- Fxp(1024, n_frac=-3) is s9/-3 (D49)

/-- if `n_int` is given with one other size, the third follows arithmetically (no search). -/
theorem infer_nint_arith (sg : Bool) (vals : List ℚ) (wq fq i : ℤ) :
    (inferFmt (some sg) none (some fq) (some i) vals =
      (if i + fq + (if sg then 1 else 0) < 0 ∨ (sg = true ∧ i + fq + (if sg then 1 else 0) = 0) then none
       else some ⟨sg, (i + fq + (if sg then 1 else 0)).toNat, fq⟩)) ∧
    (inferFmt (some sg) (some wq) none (some i) vals =
      (if wq < 0 ∨ (sg = true ∧ wq = 0) then none else some ⟨sg, wq.toNat, wq - i - (if sg then 1 else 0)⟩)) :=
  ⟨rfl, rfl⟩

/-- an inferred word never exceeds the configured maximum. -/
theorem infer_cap (sg : Bool) (vals : List ℚ) (nword nfrac : Option ℤ) : (bestSizes sg vals nword nfrac).1 ≤ 64 := by
  obtain ⟨_, _, _, _, hw⟩ := bestSizes_spec (Prod.mk.eta (p := bestSizes sg vals nword nfrac)).symm rfl rfl rfl
  exact hw ▸ min_le_right _ _

end Fxp.C06
