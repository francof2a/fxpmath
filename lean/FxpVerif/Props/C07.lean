import FxpVerif.Lemmas.Range
import FxpVerif.Props.C08
/-! # C07 — add, subtract, multiply with optimal sizing are exact and never overflow

All statements hold for every pair of constructible formats (`Fmt.WF`: a signed format has its sign bit),
any signedness mix, any `n_frac : ℤ`, unbounded word lengths. -/
namespace Fxp.C07

/-- alignment shifts of the two operands to the common fraction length `max fx fy` (both ≥ 0). -/
def kx (x y : Fmt) : Nat := (max x.nfrac y.nfrac - x.nfrac).toNat
def ky (x y : Fmt) : Nat := (max x.nfrac y.nfrac - y.nfrac).toNat

/-- the exact aligned integer results. -/
def sumCode (x y : Fmt) (a b : ℤ) : ℤ := a * 2 ^ kx x y + b * 2 ^ ky x y
def diffCode (x y : Fmt) (a b : ℤ) : ℤ := a * 2 ^ kx x y - b * 2 ^ ky x y

/-- the format produced by the growth rule of `add`/`sub`: one magnitude bit more than the wider aligned operand,
the finer fraction. It always exists. -/
theorem resultFmt_addsub (op : BinOp) (hop : op = .add ∨ op = .sub) (x y : Fmt) (hx : x.WF) (hy : y.WF) :
    resultFmt .optimal op x y =
      some (.ofMag (x.signed || y.signed) (max (x.mag + kx x y) (y.mag + ky x y) + 1) (max x.nfrac y.nfrac)) := by
  have hsz : optimalSize op x y = (x.signed || y.signed, max x.nint y.nint + 1, max x.nfrac y.nfrac) := by
    rcases hop with rfl | rfl <;> rfl
  unfold resultFmt sizing
  simp only [hsz]
  apply mkFmt_of_mag
  rw [Nat.cast_add, Nat.cast_max, kx, ky, mag_aligned x hx (le_max_left ..), mag_aligned y hy (le_max_right ..), max_add_add_right]
  ring

theorem scale_kx (x y : Fmt) (a : ℤ) : scale (a:ℚ) (max x.nfrac y.nfrac - x.nfrac) = ((a * 2 ^ kx x y : ℤ) : ℚ) :=
  scale_int_nonneg a _ (sub_nonneg.mpr (le_max_left ..))

theorem scale_ky (x y : Fmt) (b : ℤ) : scale (b:ℚ) (max x.nfrac y.nfrac - y.nfrac) = ((b * 2 ^ ky x y : ℤ) : ℚ) :=
  scale_int_nonneg b _ (sub_nonneg.mpr (le_max_right ..))

theorem rawKernel_add (x y : Fmt) (a b : ℤ) :
    rawKernel .add (max x.nfrac y.nfrac) x y a b = ((sumCode x y a b : ℤ) : ℚ) := by
  unfold rawKernel sumCode
  rw [scale_kx, scale_ky, Int.cast_add]

theorem rawKernel_sub (x y : Fmt) (a b : ℤ) :
    rawKernel .sub (max x.nfrac y.nfrac) x y a b = ((diffCode x y a b : ℤ) : ℚ) := by
  unfold rawKernel diffCode
  rw [scale_kx, scale_ky, Int.cast_sub]

/-- **never overflows (add)**: the exact aligned sum of in-range codes is in range of the result format. -/
theorem add_fits (x y : Fmt) (hx : x.WF) (hy : y.WF) (a b : ℤ) (ha : x.InRange a) (hb : y.InRange b)
    (t : Fmt) (ht : resultFmt .optimal .add x y = some t) : t.InRange (sumCode x y a b) := by
  obtain rfl := Option.some.inj ((resultFmt_addsub .add (.inl rfl) x y hx hy).symm.trans ht)
  exact inRange_ofMag.mpr ((ha.fits.shl _).add (hb.fits.shl _))

/-- **never overflows (sub)** when the result is signed, or the difference is non-negative. -/
theorem sub_fits (x y : Fmt) (hx : x.WF) (hy : y.WF) (a b : ℤ) (ha : x.InRange a) (hb : y.InRange b)
    (t : Fmt) (ht : resultFmt .optimal .sub x y = some t)
    (hsign : (x.signed || y.signed) = true ∨ 0 ≤ diffCode x y a b) : t.InRange (diffCode x y a b) := by
  obtain rfl := Option.some.inj ((resultFmt_addsub .sub (.inr rfl) x y hx hy).symm.trans ht)
  have h := (ha.fits.shl (kx x y)).sub (hb.fits.shl (ky x y))
  rcases hsign with hs | h0
  · exact inRange_ofMag.mpr (hs ▸ h)
  · exact inRange_ofMag.mpr (h.of_nonneg h0)

/-- **C07 for `+`**: under any rounding and either overflow mode the stored code is the exact aligned sum,
its value is the exact sum of the operand values, and neither overflow nor underflow is raised. -/
theorem add_exact (x y : Fmt) (hx : x.WF) (hy : y.WF) (a b : ℤ) (ha : x.InRange a) (hb : y.InRange b)
    (t : Fmt) (ht : resultFmt .optimal .add x y = some t) (r : Rounding) (o : Overflow) :
    arithRaw .add t r o x y a b = sumCode x y a b ∧
    valueOf t (arithRaw .add t r o x y a b) = valueOf x a + valueOf y b ∧
    arithFlags t (roundR r (rawKernel .add t.nfrac x y a b)) = (false, false) := by
  have hfit := add_fits x y hx hy a b ha hb t ht
  obtain rfl := Option.some.inj ((resultFmt_addsub .add (.inl rfl) x y hx hy).symm.trans ht)
  exact C08.exact_of_kernel .add (.inl rfl) hfit (ofMag_nword_pos _ _ (Nat.succ_pos _)) r o x y a b (rawKernel_add x y a b)

/-- **C07 for `-`** (signed result, or non-negative difference of unsigned operands). -/
theorem sub_exact (x y : Fmt) (hx : x.WF) (hy : y.WF) (a b : ℤ) (ha : x.InRange a) (hb : y.InRange b)
    (t : Fmt) (ht : resultFmt .optimal .sub x y = some t) (r : Rounding) (o : Overflow)
    (hsign : (x.signed || y.signed) = true ∨ 0 ≤ diffCode x y a b) :
    arithRaw .sub t r o x y a b = diffCode x y a b ∧
    valueOf t (arithRaw .sub t r o x y a b) = valueOf x a - valueOf y b ∧
    arithFlags t (roundR r (rawKernel .sub t.nfrac x y a b)) = (false, false) := by
  have hfit := sub_fits x y hx hy a b ha hb t ht hsign
  obtain rfl := Option.some.inj ((resultFmt_addsub .sub (.inr rfl) x y hx hy).symm.trans ht)
  exact C08.exact_of_kernel .sub (.inr (.inl rfl)) hfit (ofMag_nword_pos _ _ (Nat.succ_pos _)) r o x y a b
    (rawKernel_sub x y a b)

/-- **the single exception**: a negative difference of two unsigned operands is the exact difference
quantized into the unsigned result format — 0 with underflow (and no overflow) under saturate. -/
theorem sub_unsigned_neg (x y : Fmt) (hx : x.WF) (hy : y.WF) (a b : ℤ)
    (t : Fmt) (ht : resultFmt .optimal .sub x y = some t) (r : Rounding)
    (hu : (x.signed || y.signed) = false) (hneg : diffCode x y a b < 0) :
    arithRaw .sub t r .saturate x y a b = 0 ∧
    arithFlags t (roundR r (rawKernel .sub t.nfrac x y a b)) = (false, true) := by
  obtain rfl := Option.some.inj ((resultFmt_addsub .sub (.inr rfl) x y hx hy).symm.trans ht)
  rw [hu]
  generalize max (x.mag + kx x y) (y.mag + ky x y) + 1 = m
  have hk : roundR r (rawKernel .sub (Fmt.ofMag false m (max x.nfrac y.nfrac)).nfrac x y a b) = diffCode x y a b := by
    show roundR r (rawKernel .sub (max x.nfrac y.nfrac) x y a b) = _
    rw [rawKernel_sub, roundR_int]
  have hlo : (Fmt.ofMag false m (max x.nfrac y.nfrac)).lo = 0 := rfl
  have hhi := hlo ▸ lo_le_hi (.ofMag false m (max x.nfrac y.nfrac))
  unfold arithRaw storeRawFloat arithFlags
  rw [hk, hlo]
  exact ⟨(sat_below _ _ (hlo ▸ hneg)).trans hlo, by simp [hneg, not_lt.mpr (hneg.le.trans hhi)]⟩

/-! ### multiplication -/

theorem resultFmt_mul (x y : Fmt) (hx : x.WF) (hy : y.WF) :
    resultFmt .optimal .mul x y = some ⟨x.signed || y.signed, x.nword + y.nword, x.nfrac + y.nfrac⟩ := by
  unfold resultFmt sizing optimalSize
  exact mkFmt_of_nword _ _ _ _ (by push_cast; ring) (wf_mul x y hx hy 0)

theorem rawKernel_mul (x y : Fmt) (a b : ℤ) :
    rawKernel .mul (x.nfrac + y.nfrac) x y a b = ((a * b : ℤ) : ℚ) := by
  unfold rawKernel
  rw [show x.nfrac + y.nfrac - x.nfrac - y.nfrac = 0 by ring, scale_zero]

/-- **never overflows (mul)**: the product of in-range codes fits `n_word_x + n_word_y` bits, for all four
signedness mixes (including most-negative × most-negative). -/
theorem mul_fits (x y : Fmt) (hx : x.WF) (hy : y.WF) (a b : ℤ) (ha : x.InRange a) (hb : y.InRange b)
    (t : Fmt) (ht : resultFmt .optimal .mul x y = some t) : t.InRange (a * b) := by
  obtain rfl := Option.some.inj ((resultFmt_mul x y hx hy).symm.trans ht)
  rw [inRange_iff_fits, mag_mul x y hx hy]
  exact ha.fits.mul hb.fits

/-- **C07 for `*`**. `hpos`: the lemmas on `wrap` ask for a positive word, which `WF` does not give to an unsigned result
(`u0 · u0`). -/
theorem mul_exact (x y : Fmt) (hx : x.WF) (hy : y.WF) (a b : ℤ) (ha : x.InRange a) (hb : y.InRange b)
    (t : Fmt) (ht : resultFmt .optimal .mul x y = some t) (r : Rounding) (o : Overflow)
    (hpos : 0 < x.nword + y.nword) :
    arithRaw .mul t r o x y a b = a * b ∧
    valueOf t (arithRaw .mul t r o x y a b) = valueOf x a * valueOf y b ∧
    arithFlags t (roundR r (rawKernel .mul t.nfrac x y a b)) = (false, false) := by
  have hfit := mul_fits x y hx hy a b ha hb t ht
  obtain rfl := Option.some.inj ((resultFmt_mul x y hx hy).symm.trans ht)
  exact C08.exact_of_kernel .mul (.inr (.inr rfl)) hfit hpos r o x y a b (rawKernel_mul x y a b)

/-! ### nested expressions -/

/-- leaves are well-formed stored operands; subtraction nodes have a signed side (so the unsigned-negative
exception cannot occur). -/
def _root_.Fxp.Expr.Ok : Expr → Prop
  | .leaf f c => f.WF ∧ 0 < f.nword ∧ f.InRange c
  | .add l r => l.Ok ∧ r.Ok
  | .sub l r => l.Ok ∧ r.Ok ∧ (l.hasSigned = true ∨ r.hasSigned = true)
  | .mul l r => l.Ok ∧ r.Ok

/-- **nested expressions are exact**: by structural induction, for trees of any depth. -/
theorem expr_exact (rd : Rounding) (o : Overflow) (e : Expr) (h : e.Ok) :
    ∃ t c, e.eval rd o = some (t, c) ∧ t.WF ∧ 0 < t.nword ∧ t.InRange c ∧ valueOf t c = e.value ∧
      t.signed = e.hasSigned := by
  induction e with
  | leaf f c => exact ⟨f, c, rfl, h.1, h.2.1, h.2.2, rfl, rfl⟩
  | add l r ihl ihr =>
    obtain ⟨x, a, ex, hx, hxp, ha, va, sa⟩ := ihl h.1
    obtain ⟨y, b, ey, hy, hyp, hb, vb, sb⟩ := ihr h.2
    have ht := resultFmt_addsub .add (.inl rfl) x y hx hy
    obtain ⟨c1, c2, _⟩ := add_exact x y hx hy a b ha hb _ ht rd o
    exact ⟨_, _, by simp only [Expr.eval, ex, ey, Option.bind_eq_bind, Option.bind_some, ht]; rfl, ofMag_WF _ _ _,
      ofMag_nword_pos _ _ (Nat.succ_pos _), c1 ▸ add_fits x y hx hy a b ha hb _ ht, by rw [c2, va, vb]; rfl, sa ▸ sb ▸ rfl⟩
  | sub l r ihl ihr =>
    obtain ⟨x, a, ex, hx, hxp, ha, va, sa⟩ := ihl h.1
    obtain ⟨y, b, ey, hy, hyp, hb, vb, sb⟩ := ihr h.2.1
    have ht := resultFmt_addsub .sub (.inr rfl) x y hx hy
    have hsg : (x.signed || y.signed) = true := by rw [sa, sb, Bool.or_eq_true]; exact h.2.2
    obtain ⟨c1, c2, _⟩ := sub_exact x y hx hy a b ha hb _ ht rd o (.inl hsg)
    exact ⟨_, _, by simp only [Expr.eval, ex, ey, Option.bind_eq_bind, Option.bind_some, ht]; rfl, ofMag_WF _ _ _,
      ofMag_nword_pos _ _ (Nat.succ_pos _), c1 ▸ sub_fits x y hx hy a b ha hb _ ht (.inl hsg), by rw [c2, va, vb]; rfl,
      sa ▸ sb ▸ rfl⟩
  | mul l r ihl ihr =>
    obtain ⟨x, a, ex, hx, hxp, ha, va, sa⟩ := ihl h.1
    obtain ⟨y, b, ey, hy, hyp, hb, vb, sb⟩ := ihr h.2
    have ht := resultFmt_mul x y hx hy
    have hw : 0 < x.nword + y.nword := Nat.add_pos_left hxp _
    obtain ⟨c1, c2, _⟩ := mul_exact x y hx hy a b ha hb _ ht rd o hw
    exact ⟨_, _, by simp only [Expr.eval, ex, ey, Option.bind_eq_bind, Option.bind_some, ht]; rfl, .of_pos hw, hw,
      c1 ▸ mul_fits x y hx hy a b ha hb _ ht, by rw [c2, va, vb]; rfl, sa ▸ sb ▸ rfl⟩

/-- arrays, once broadcast to a common length (`h`), are the scalar operation applied to every pair: a fact about
`List.zipWith`, by which the model applies an operation to arrays. -/
theorem broadcast_pointwise (g : ℤ → ℤ → ℤ) (as bs : List ℤ) (h : as.length = bs.length) :
    (List.zipWith g as bs).length = as.length ∧
    ∀ i (hi : i < as.length), (List.zipWith g as bs)[i]'(by simp [h]; omega) = g (as[i]) (bs[i]'(by omega)) := by
  refine ⟨by simp [h], fun i hi => by simp⟩

/-! non-vacuity: most-negative corners -/
example : resultFmt .optimal .mul ⟨true, 4, 2⟩ ⟨true, 4, 1⟩ = some ⟨true, 8, 3⟩ := by decide +kernel
example : arithRaw .mul ⟨true, 8, 3⟩ .trunc .saturate ⟨true, 4, 2⟩ ⟨true, 4, 1⟩ (-8) (-8) = 64 := by decide +kernel
example : resultFmt .optimal .add ⟨true, 4, 2⟩ ⟨false, 3, -1⟩ = some ⟨true, 8, 2⟩ := by decide +kernel

end Fxp.C07
