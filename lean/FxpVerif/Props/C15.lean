import FxpVerif.Model.Reduce
import FxpVerif.Lemmas.Range
import Mathlib.Data.List.Sort
/-! # C15 — NumPy reductions and linear algebra on fixed-point arrays are exact -/
namespace Fxp.C15

/-! ### sums -/

theorem le_two_pow_clog2 (n : ℕ) : n ≤ 2 ^ clog2 n := by
  unfold clog2
  split
  · exact ‹n ≤ 1›
  · have := Nat.lt_log2_self (n := n - 1)
    omega

theorem products_length_le (as bs : List ℤ) : (List.zipWith (· * ·) as bs).length ≤ 2 ^ clog2 as.length :=
  List.length_zipWith ▸ (Nat.min_le_left ..).trans (le_two_pow_clog2 _)

theorem sumL_eq (l : List ℤ) : sumL l = l.sum := (List.sum_eq_foldl ..).symm

theorem prodL_eq (l : List ℤ) : prodL l = l.prod := (List.prod_eq_foldl ..).symm

theorem sum_fits_of_le (f : Fmt) (hf : f.WF) (cs : List ℤ) (N : ℕ) (hN : cs.length ≤ N) (h : ∀ c ∈ cs, f.InRange c) :
    (sumFmt f N).InRange cs.sum := by
  rw [inRange_iff_fits, sumFmt, Nat.add_comm, mag_add f hf]
  exact Fits.sum (fun c hc => (h c hc).fits) (hN.trans (le_two_pow_clog2 N))

/-- **sum never overflows**: `k` in-range codes sum into `n_word + ceil(log2 k)` bits (even all at an extreme). -/
theorem sum_fits (f : Fmt) (hw : 0 < f.nword) (cs : List ℤ) (hne : cs ≠ []) (h : ∀ c ∈ cs, f.InRange c) :
    (sumFmt f cs.length).InRange (sumL cs) :=
  sumL_eq cs ▸ sum_fits_of_le f (.of_pos hw) cs _ le_rfl h

/-- **cumsum never overflows**: every non-empty prefix sum fits the same format. -/
theorem cumsum_fits (f : Fmt) (hw : 0 < f.nword) (cs pre : List ℤ) (hpre : pre <+: cs) (hne : pre ≠ [])
    (h : ∀ c ∈ cs, f.InRange c) : (sumFmt f cs.length).InRange (sumL pre) :=
  sumL_eq pre ▸ sum_fits_of_le f (.of_pos hw) pre _ hpre.length_le fun c hc => h c (hpre.subset hc)

/-- trace is the sum of the diagonal: same statement with the diagonal's length. -/
theorem trace_fits (f : Fmt) (hw : 0 < f.nword) (diag : List ℤ) (hne : diag ≠ []) (h : ∀ c ∈ diag, f.InRange c) :
    (sumFmt f diag.length).InRange (sumL diag) := sum_fits f hw diag hne h

/-- value of a sum is the sum of the values. -/
theorem sum_value_exact (f : Fmt) (N : ℕ) (cs : List ℤ) :
    valueOf (sumFmt f N) (sumL cs) = (cs.map (valueOf f)).sum := by
  rw [sumL_eq]
  show scale _ (-f.nfrac) = _
  induction cs with
  | nil => simp [scale_eq]
  | cons c t ih => rw [List.sum_cons, Int.cast_add, scale_add, ih]; rfl

/-! ### products -/

/-- **prod never overflows**: the product of `k ≥ 1` in-range codes fits `k·n_word` bits. -/
theorem prod_fits (f : Fmt) (hf : f.WF) (hw : 0 < f.nword) (cs : List ℤ) (hne : cs ≠ []) (h : ∀ c ∈ cs, f.InRange c) :
    (prodFmt f cs.length).InRange (prodL cs) := by
  obtain ⟨c, t, rfl⟩ := List.exists_cons_of_ne_nil hne
  have hp := Fits.prod (h c List.mem_cons_self).fits fun d hd => (h d (List.mem_cons_of_mem _ hd)).fits
  have hm : (prodFmt f (t.length + 1)).mag = (t.length + 1) * f.mag + t.length * if f.signed then 1 else 0 := by
    show (t.length + 1) * f.nword - (if f.signed then 1 else 0) = _
    rw [nword_eq_mag f hf, Nat.mul_add, Nat.succ_mul _ (if f.signed then 1 else 0), ← Nat.add_assoc, Nat.add_sub_cancel]
  rw [prodL_eq, List.prod_cons, inRange_iff_fits, List.length_cons, hm]
  exact hp

/-- value of a product is the product of the values. -/
theorem prod_value_exact (f : Fmt) (cs : List ℤ) :
    valueOf (prodFmt f cs.length) (prodL cs) = (cs.map (valueOf f)).prod := by
  rw [prodL_eq]
  induction cs with
  | nil => simp [valueOf, prodFmt, scale_eq]
  | cons c t ih =>
    -- the fraction bits of the factors add up
    rw [List.map_cons, List.prod_cons, List.prod_cons, ← ih, valueOf_mul, valueOf]
    congr 1
    show -(((t.length + 1 : ℕ) : ℤ) * f.nfrac) = -f.nfrac + -((t.length : ℤ) * f.nfrac)
    push_cast; ring

/-! ### cumprod: every partial product, rescaled to the common fraction length, fits the result format -/

theorem mul_le_ends (d : ℤ) {k n : ℕ} (hk1 : 1 ≤ k) (hk : k ≤ n) : (k : ℤ) * d ≤ if 0 ≤ d then n * d else d := by
  split
  · exact mul_le_mul_of_nonneg_right (Int.ofNat_le.mpr hk) ‹_›
  · exact (mul_le_mul_of_nonpos_right (Int.ofNat_le.mpr hk1) (not_le.mp ‹_›).le).trans_eq (by rw [Nat.cast_one, one_mul])

/-- the exponent by which the `k`-th partial product is rescaled: `cumprodFrac` is the larger end of `k·n_frac`. -/
theorem cumprod_shift_nonneg (f : Fmt) (size k : ℕ) (hk1 : 1 ≤ k) (hk : k ≤ size) :
    0 ≤ cumprodFrac f size - (k : ℤ) * f.nfrac :=
  sub_nonneg.mpr (mul_le_ends f.nfrac hk1 hk)

/-- the word of `cumprodFmt` is large enough for the `k`-th partial product (`k·n_word` bits) plus its rescaling:
it takes both ends of `k·(n_word − n_frac)`. -/
theorem cumprod_word_ge (f : Fmt) (size k : ℕ) (hk1 : 1 ≤ k) (hk : k ≤ size) :
    (k : ℤ) * f.nword + (cumprodFrac f size - (k : ℤ) * f.nfrac) ≤
      max ((f.nword : ℤ) + cumprodFrac f size - f.nfrac) ((size : ℤ) * f.nword + cumprodFrac f size - size * f.nfrac) := by
  have := (mul_le_ends ((f.nword : ℤ) - f.nfrac) hk1 hk).trans (ite_le_sup ..)
  rw [mul_sub, mul_sub] at this
  omega

/-- **cumprod never overflows**: every non-empty prefix product, rescaled to the common fraction length, fits the format
`cumprodFmt` — for every fraction length (negative, or longer than the word), all codes at their extremes included. -/
theorem cumprod_fits (f : Fmt) (hf : f.WF) (hw : 0 < f.nword) (cs pre : List ℤ) (hpre : pre <+: cs) (hne : pre ≠ [])
    (h : ∀ c ∈ cs, f.InRange c) :
    (cumprodFmt f cs.length).InRange
      (prodL pre * 2 ^ (cumprodFrac f cs.length - (pre.length : ℤ) * f.nfrac).toNat) := by
  have hk1 : 1 ≤ pre.length := List.length_pos_iff.mpr hne
  have he := cumprod_shift_nonneg f cs.length pre.length hk1 hpre.length_le
  have hwd := cumprod_word_ge f cs.length pre.length hk1 hpre.length_le
  rw [inRange_iff_fits]
  refine ((prod_fits f hf hw pre hne fun c hc => h c (hpre.subset hc)).fits.shl _).mono id ?_
  -- the magnitude bits: word minus sign bit on both sides, and the word is the `toNat` of the maximum
  have hs : (if f.signed then 1 else 0) ≤ pre.length * f.nword := (ite_le_sup ..).trans (Nat.mul_pos hk1 hw)
  show pre.length * f.nword - (if f.signed then 1 else 0) + _ ≤ Int.toNat _ - (if f.signed then 1 else 0)
  omega

/-- **cumprod is exact**: the value of the `k`-th element of the result (the rescaled prefix product, read in `cumprodFmt`) is the
product of the values of the first `k` elements — for every fraction length. -/
theorem cumprod_value_exact (f : Fmt) (size : ℕ) (pre : List ℤ) (hk1 : 1 ≤ pre.length) (hk : pre.length ≤ size) :
    valueOf (cumprodFmt f size) (prodL pre * 2 ^ (cumprodFrac f size - (pre.length : ℤ) * f.nfrac).toNat) =
      (pre.map (valueOf f)).prod := by
  -- the rescaling is a `scale` by a non-negative exponent, and exponents add
  rw [← prod_value_exact f pre, valueOf, valueOf, ← scale_int_nonneg _ _ (cumprod_shift_nonneg f size pre.length hk1 hk),
    scale_scale]
  congr 1
  show _ + -cumprodFrac f size = -((pre.length : ℤ) * f.nfrac)
  ring

/-! ### dot -/

/-- a sum of products of in-range codes fits `clog2 k + n_x + n_y` bits, `k` the length of the first list — whatever the second. -/
theorem dotL_fits (x y : Fmt) (hx : x.WF) (hy : y.WF) (as bs : List ℤ)
    (ha : ∀ a ∈ as, x.InRange a) (hb : ∀ b ∈ bs, y.InRange b) : (dotFmt x y as.length).InRange (dotL as bs) := by
  have hprods : ∀ p ∈ List.zipWith (· * ·) as bs, Fits (x.signed || y.signed) (x.mag + y.mag + if x.signed && y.signed then 1 else 0) p :=
    forall_mem_zipWith fun a h b h' => (ha a h).fits.mul (hb b h').fits
  have hl := products_length_le as bs
  -- the word of `dotFmt` is the product word `n_x + n_y` (a format of its own here, for `mag_add`) widened by `clog2 k` bits
  rw [dotL, sumL_eq, inRange_iff_fits, dotFmt, Nat.add_assoc, Nat.add_comm, mag_add _ (wf_mul x y hx hy 0), mag_mul x y hx hy]
  exact Fits.sum hprods hl

/-- **dot never overflows**: a length-`k` dot product fits `clog2 k + n_x + n_y` bits, any signedness mix. -/
theorem dot_fits (x y : Fmt) (hx : x.WF) (hy : y.WF) (hpos : 0 < x.nword + y.nword) (as bs : List ℤ)
    (hlen : as.length = bs.length) (hne : as ≠ []) (ha : ∀ a ∈ as, x.InRange a) (hb : ∀ b ∈ bs, y.InRange b) :
    (dotFmt x y as.length).InRange (dotL as bs) :=
  dotL_fits x y hx hy as bs ha hb

/-! ### matmul -/

/-- **matmul never overflows**: every entry of the product of an `r×k` by a `k×m` matrix is the dot product of a row and a column
and fits the format `dot` uses, `clog2 k + n_x + n_y` bits (the format `np.matmul` / `@` return since D66). -/
theorem matmul_fits (x y : Fmt) (hx : x.WF) (hy : y.WF) (hpos : 0 < x.nword + y.nword) (a b : List (List ℤ)) (k m : ℕ) (hk : 0 < k)
    (ha : ∀ row ∈ a, row.length = k ∧ ∀ c ∈ row, x.InRange c)
    (hbl : b.length = k) (hb : ∀ row ∈ b, row.length = m ∧ ∀ c ∈ row, y.InRange c) :
    ∀ row ∈ matmulL a b, ∀ e ∈ row, (dotFmt x y k).InRange e := by
  intro row hrow e he
  obtain ⟨r, hr, rfl⟩ := List.mem_map.mp hrow
  obtain ⟨col, hcol, rfl⟩ := List.mem_map.mp he
  obtain ⟨hrl, hrr⟩ := ha r hr
  -- a column holds entries of rows of `b`
  have hcm : ∀ c ∈ col, y.InRange c := by
    unfold transposeL at hcol
    split at hcol
    · cases hcol
    · obtain ⟨j, -, rfl⟩ := List.mem_map.mp hcol
      intro c hc
      obtain ⟨row, hrow, hcr⟩ := List.mem_filterMap.mp hc
      exact (hb row hrow).2 c (List.mem_of_getElem? hcr)
  exact hrl ▸ dotL_fits x y hx hy r col hrr hcm

/-! ### selection functions -/

/-- `max` returns an element that bounds all others; by monotonicity of `valueOf` it is the maximum of the values. -/
theorem max_value (f : Fmt) (cs : List ℤ) (hne : cs ≠ []) :
    maxL cs ∈ cs ∧ ∀ c ∈ cs, valueOf f c ≤ valueOf f (maxL cs) := by
  obtain ⟨a, t, rfl⟩ := List.exists_cons_of_ne_nil hne
  -- `maxL (a :: t)` is the library's `(a :: t).max?`
  obtain ⟨hm, hle⟩ := List.max?_eq_some_iff.mp (List.max?_cons' (x := a) (xs := t))
  exact ⟨hm, fun c hc => valueOf_mono f (hle c hc)⟩

theorem insertSorted_eq : insertSorted = List.orderedInsert (· ≤ ·) := by
  funext x l
  induction l with
  | nil => rfl
  | cons a t ih => rw [insertSorted, List.orderedInsert_cons, ih]

/-- `sort` returns a sorted permutation of the codes (hence of the values). -/
theorem sort_is_sorted_perm (l : List ℤ) : (sortL l).Perm l ∧ (sortL l).Pairwise (· ≤ ·) := by
  rw [sortL, insertSorted_eq]
  exact ⟨List.perm_insertionSort _ l, List.pairwise_insertionSort _ l⟩

/-- `clip` clamps every code into the given bounds. -/
theorem clip_value (lo hi : ℤ) (hlh : lo ≤ hi) (l : List ℤ) :
    ∀ c ∈ clipL (some lo) (some hi) l, lo ≤ c ∧ c ≤ hi := by
  intro c hc
  unfold clipL at hc
  obtain ⟨a, _, rfl⟩ := List.mem_map.mp hc
  simp only
  omega

/-- shape of a transpose, in the one-row case: a `1×n` matrix becomes `n` rows (axis re-indexing in general is
correspondence-only). -/
theorem transpose_shape (rows : List (List ℤ)) (r : List ℤ) (h : rows = r :: []) : (transposeL rows).length = r.length := by
  subst h; simp [transposeL]

/-! ### diagonals with an offset -/

/-- the diagonal with offset 0 is the main diagonal. -/
theorem diagOffL_zero (rows : List (List ℤ)) : diagOffL rows 0 = diagL rows := by
  unfold diagOffL diagL
  simp

/-- every entry of a diagonal (any offset) is an entry of the matrix: it is in the range of the format, so `diagonal` keeps the format
and `trace` of `k` of them fits `clog2 k` more bits (`trace_fits`). -/
theorem diagOffL_mem (rows : List (List ℤ)) (k : ℤ) : ∀ e ∈ diagOffL rows k, ∃ row ∈ rows, e ∈ row := by
  intro e he
  obtain ⟨p, hp, hpe⟩ := List.mem_filterMap.mp he
  refine ⟨p.1, List.fst_mem_of_mem_zipIdx hp, ?_⟩
  split at hpe
  exacts [List.mem_of_getElem? hpe, nomatch hpe]

/-! non-vacuity -/
example : cumprodFmt ⟨true, 1, 3⟩ 2 = ⟨true, 4, 6⟩ ∧ cumprodFmt ⟨true, 3, -2⟩ 3 = ⟨true, 13, -2⟩ ∧ cumprodFmt ⟨true, 4, 2⟩ 3 = ⟨true, 12, 6⟩ := by
  decide +kernel
example : sumL [-8, -8, -8, -8] = -32 ∧ (sumFmt ⟨true, 4, 0⟩ 4) = ⟨true, 6, 0⟩ := by decide +kernel
example : (sumFmt ⟨true, 4, 0⟩ 4).InRange (-32) := by decide +kernel
example : prodL [-8, -8] = 64 ∧ (prodFmt ⟨true, 4, 0⟩ 2).InRange 64 := by
  decide +kernel
example : matmulL [[1, 2], [3, 4]] [[5, 6], [7, 8]] = [[19, 22], [43, 50]] := by decide +kernel
example : matmulL [[-8, -8], [-8, -8]] [[-8, -8], [-8, -8]] = [[128, 128], [128, 128]] ∧ (dotFmt ⟨true, 4, 0⟩ ⟨true, 4, 0⟩ 2).InRange 128 := by
  decide +kernel
example : diagOffL [[1, 2, 3], [4, 5, 6]] 1 = [2, 6] ∧ diagOffL [[1, 2, 3], [4, 5, 6]] (-1) = [4] ∧ diagOffL [[1, 2, 3], [4, 5, 6]] 0 = [1, 5] := by
  decide +kernel

end Fxp.C15
