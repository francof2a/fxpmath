import FxpVerif.Model.Strings
import FxpVerif.Lemmas.Digits
import FxpVerif.Lemmas.Pattern
import FxpVerif.Lemmas.Store
/-! # C11 — binary and hex strings are faithful images of the code and parse back to it -/
namespace Fxp.C11

/-- `bin()` has exactly `n_word` digits … -/
theorem bin_length (f : Fmt) (c : ℤ) : (binBits f c).length = f.nword := length_renderFixed 2 _ _

theorem bin_bits_lt (f : Fmt) (c : ℤ) : ∀ d ∈ binBits f c, d < 2 := renderFixed_lt 2 (by norm_num) _ _

/-- … whose value is the two's-complement image `code mod 2^n_word`. -/
theorem bin_is_pattern (f : Fmt) (c : ℤ) : parseDigits 2 (binBits f c) = pattern f c :=
  parse_renderFixed_of_lt 2 _ _ (upat_lt _ c)

/-- the rendered string without point and prefix has `n_word` characters. -/
theorem binStr_length (f : Fmt) (c : ℤ) : (binStr f c false []).length = f.nword :=
  (List.length_map _).trans (bin_length f c)

/-- the binary point sits `n_frac` digits from the right (0 < n_frac < n_word). -/
theorem bin_point_position (ds : List Char) (nf : ℕ) (h0 : 0 < nf) (h1 : nf < ds.length) :
    insertFracPoint ds nf = ds.take (ds.length - nf) ++ ['.'] ++ ds.drop (ds.length - nf) ∧
    (ds.drop (ds.length - nf)).length = nf := by
  refine ⟨?_, by rw [List.length_drop]; omega⟩
  unfold insertFracPoint
  rw [if_pos ⟨by exact_mod_cast h0, by exact_mod_cast h1⟩, Int.toNat_natCast]

theorem bin_point_edges (ds : List Char) :
    insertFracPoint ds 0 = ds ++ ['.'] ∧ (ds ≠ [] → insertFracPoint ds ds.length = '.' :: ds) := by
  unfold insertFracPoint
  refine ⟨by rw [if_neg (by omega), if_pos rfl], fun hne => ?_⟩
  have hl : 0 < ds.length := List.length_pos_iff.mpr hne
  rw [if_neg (by omega), if_neg (by omega), if_neg (by omega), if_pos rfl]

/-- `hex()` has `ceil(n_word/4)` digits whose value is the same pattern. -/
theorem hex_length (f : Fmt) (c : ℤ) : (renderFixed 16 (hexWidth f) (pattern f c)).length = (f.nword + 3) / 4 :=
  length_renderFixed 16 _ _

theorem hex_is_pattern (f : Fmt) (c : ℤ) :
    parseDigits 16 (renderFixed 16 (hexWidth f) (pattern f c)) = pattern f c := by
  apply parse_renderFixed_of_lt
  calc pattern f c < 2 ^ f.nword := upat_lt _ c
    _ ≤ 2 ^ (4 * hexWidth f) := Nat.pow_le_pow_right Nat.two_pos (by unfold hexWidth; omega)
    _ = 16 ^ hexWidth f := pow_mul 2 4 _

/-- `base_repr(b)` is the sign followed by the magnitude's base-`b` numeral. -/
theorem base_repr_signmag (b : ℕ) (hb : 2 ≤ b) (c : ℤ) :
    baseRepr b c = (if c < 0 then ['-'] else []) ++ (natDigits b c.natAbs).map digitChar ∧
    parseDigits b (natDigits b c.natAbs) = c.natAbs :=
  ⟨rfl, parse_natDigits b hb _⟩

/-! ### parsing back -/

/-- `hs2`: the model, like `utils.strbin2int`, rejects a signed string of fewer than two bits. -/
theorem strbin2int_full (f : Fmt) (hw : 1 ≤ f.nword) (hs2 : f.signed = true → 2 ≤ f.nword) (bits : List ℕ)
    (hlen : bits.length = f.nword) (hb : ∀ d ∈ bits, d < 2) :
    strbin2int f.signed f.nword bits = some (wrap f (parseDigits 2 bits)) := by
  -- a full-width string needs no extension; its head bit `s` and the value `v` of the rest are what `wrap_msb` speaks of;
  -- the model's test "fewer than two bits" is where `hs2` is used
  unfold strbin2int
  rw [hlen, if_neg (lt_irrefl _)]
  cases bits with
  | nil => rw [← hlen] at hw; exact absurd hw (by decide)
  | cons s rest =>
    obtain ⟨hsb, hb⟩ := List.forall_mem_cons.mp hb
    have hl : rest.length = f.nword - 1 := by rw [← hlen]; rfl
    have hv := parseDigits_lt 2 Nat.two_pos rest hb
    rw [hl] at hv
    simp only [Nat.sub_self, List.replicate_zero, List.nil_append, List.length_cons]
    rw [parseDigits_cons, hl]
    push_cast
    rw [wrap_msb f hw s _ hsb (Int.natCast_nonneg _) (by exact_mod_cast hv)]
    cases hs : f.signed
    · rfl
    · have := hs2 hs
      rw [if_neg (show ¬ f.nword - 1 + 1 < 2 by omega)]; rfl

theorem strbin2int_render (f : Fmt) (hw : 1 ≤ f.nword) (hs2 : f.signed = true → 2 ≤ f.nword) (c : ℤ)
    (h : f.InRange c) : strbin2int f.signed f.nword (binBits f c) = some c := by
  rw [strbin2int_full f hw hs2 _ (bin_length f c) (bin_bits_lt f c), bin_is_pattern, wrap_pattern f hw c h]

theorem bitsOfChars_map (ds : List ℕ) (h : ∀ d ∈ ds, d < 2) : bitsOfChars (ds.map digitChar) = some ds := by
  have bit : ∀ d < 2, (if digitChar d = '0' then some 0 else if digitChar d = '1' then some 1 else none) = some d := by
    decide
  unfold bitsOfChars
  induction ds with
  | nil => rfl
  | cons d ds ih =>
    obtain ⟨hd, h⟩ := List.forall_mem_cons.mp h
    rw [List.map_cons, List.mapM_cons, bit d hd, ih h]; rfl

theorem stripPrefix_append (p cs : List Char) : stripPrefix p (p ++ cs) = cs := by
  unfold stripPrefix
  rw [if_pos (List.isPrefixOf_iff_prefix.mpr (List.prefix_append p cs)), List.drop_left]

theorem parseBinCode_bits (sg : Bool) (n : ℕ) (cs : List Char) (ds : List ℕ) (hd : ∀ d ∈ ds, d < 2)
    (hcs : cs.filter (· ≠ '.') = ds.map digitChar) :
    parseBinCode sg n (['0', 'b'] ++ cs) = strbin2int sg n ds := by
  unfold parseBinCode
  rw [stripPrefix_append]
  simp only [hcs, bitsOfChars_map ds hd, Option.bind_some]

theorem filter_no_dot (ds : List ℕ) (h : ∀ d ∈ ds, d < 2) :
    (ds.map digitChar).filter (· ≠ '.') = ds.map digitChar := by
  rw [List.filter_eq_self]
  intro ch hch
  obtain ⟨d, hd, rfl⟩ := List.mem_map.mp hch
  exact decide_eq_true (digitChar_ne_dot d ((h d hd).trans (by decide)))

/-- **binary round trip, raw mode**: the prefixed `n_word`-digit rendering parses back to the same code, for
every in-range code of every format with `n_word ≥ 2` (signed) / `≥ 1` (unsigned), any word length. -/
theorem bin_roundtrip_raw (f : Fmt) (hw : 1 ≤ f.nword) (hs2 : f.signed = true → 2 ≤ f.nword) (c : ℤ)
    (h : f.InRange c) : parseBinCode f.signed f.nword (binStr f c false ['0', 'b']) = some c := by
  unfold binStr
  simp only [Bool.false_eq_true, if_false]
  rw [parseBinCode_bits _ _ _ _ (bin_bits_lt f c) (filter_no_dot _ (bin_bits_lt f c))]
  exact strbin2int_render f hw hs2 c h

theorem filter_dot (l₁ l₂ : List Char) : (l₁ ++ '.' :: l₂).filter (· ≠ '.') = (l₁ ++ l₂).filter (· ≠ '.') := by
  rw [List.filter_append, List.filter_append, List.filter_cons_of_neg (by decide)]

theorem filter_insertFracPoint (ds : List Char) (hd : ds.filter (· ≠ '.') = ds) (nf : ℤ) (h0 : 0 ≤ nf)
    (h1 : nf ≤ ds.length) : (insertFracPoint ds nf).filter (· ≠ '.') = ds := by
  lift nf to ℕ using h0
  rcases Nat.eq_zero_or_pos nf with rfl | hpos
  · rw [Nat.cast_zero, (bin_point_edges ds).1, filter_dot ds [], List.append_nil, hd]
  · rcases (Nat.cast_le.mp h1).lt_or_eq with hlt | rfl
    · rw [(bin_point_position ds nf hpos hlt).1, List.append_assoc, List.singleton_append, filter_dot,
        List.take_append_drop, hd]
    · rw [(bin_point_edges ds).2 (List.ne_nil_of_length_pos hpos)]
      exact (filter_dot [] ds).trans hd

/-- **binary round trip with the binary point** (`0 ≤ n_frac ≤ n_word`): the point is ignored by the code
reading (the value reading divides by `2^n_frac`, which the store multiplies back — see `value_mode`). -/
theorem bin_roundtrip_dot (f : Fmt) (hw : 1 ≤ f.nword) (hs2 : f.signed = true → 2 ≤ f.nword)
    (hf0 : 0 ≤ f.nfrac) (hf1 : f.nfrac ≤ f.nword) (c : ℤ) (h : f.InRange c) :
    parseBinCode f.signed f.nword (binStr f c true ['0', 'b']) = some c := by
  unfold binStr
  simp only [if_true]
  rw [parseBinCode_bits _ _ _ _ (bin_bits_lt f c)
    (filter_insertFracPoint _ (filter_no_dot _ (bin_bits_lt f c)) f.nfrac hf0 (by rwa [List.length_map, bin_length]))]
  exact strbin2int_render f hw hs2 c h

theorem parseHexCode_digits (f : Fmt) (hw : 1 ≤ f.nword) (hs2 : f.signed = true → 2 ≤ f.nword) (ds : List ℕ)
    (hd : ∀ d ∈ ds, d < 16) (hv : parseDigits 16 ds < 2 ^ f.nword) :
    parseHexCode f.signed f.nword (['0', 'x'] ++ ds.map digitChar) = some (wrap f (parseDigits 16 ds)) := by
  unfold parseHexCode
  rw [stripPrefix_append, parseChars_digits 16 (by norm_num) _ hd, Option.bind_some]
  generalize parseDigits 16 ds = v at hv
  -- the value is re-rendered in binary and padded to `n_word` bits
  have hbits : (if v = 0 then List.replicate (max f.nword 1) 0 else
      List.replicate (f.nword - (natDigits 2 v).length) 0 ++ natDigits 2 v) = renderFixed 2 f.nword v := by
    split
    · rename_i h0; rw [h0, renderFixed_zero, max_eq_left hw]
    · exact pad_natDigits 2 (by norm_num) _ _ hw hv
  rw [hbits, strbin2int_full f hw hs2 _ (length_renderFixed ..) (renderFixed_lt 2 Nat.two_pos _ _),
    parse_renderFixed_of_lt 2 _ _ hv]

/-- **hex round trip, raw mode**. -/
theorem hex_roundtrip_raw (f : Fmt) (hw : 1 ≤ f.nword) (hs2 : f.signed = true → 2 ≤ f.nword) (c : ℤ)
    (h : f.InRange c) : parseHexCode f.signed f.nword (hexStr f c ['0', 'x']) = some c := by
  unfold hexStr
  rw [parseHexCode_digits f hw hs2 _ (renderFixed_lt 16 (by norm_num) _ _) (by rw [hex_is_pattern]; exact upat_lt _ c),
    hex_is_pattern, wrap_pattern f hw c h]

/-- **value mode**: the parsed code `c` is turned into the value `c·2^-n_frac` and stored by value, which
gives `c` again in all ten mode combinations. -/
theorem value_mode (f : Fmt) (hw : 0 < f.nword) (r : Rounding) (o : Overflow) (c : ℤ) (h : f.InRange c) :
    quantize f r o (valueOf f c) = c := quantize_valueOf f hw r o c h

/-- arrays are rendered element-wise: one string per element. -/
theorem pointwise (f : Fmt) (cs : List ℤ) :
    (cs.map (fun c => binStr f c false [])).length = cs.length := List.length_map _

/-! non-vacuity -/
example : String.ofList (binStr ⟨true, 5, 2⟩ (-3) true ['0', 'b']) = "0b111.01" := by decide +kernel
example : String.ofList (hexStr ⟨true, 5, 2⟩ (-3) ['0', 'x']) = "0x1D" := by decide +kernel
example : parseHexCode true 5 "0x1D".toList = some (-3) := by decide +kernel
example : String.ofList (baseRepr 3 (-7)) = "-21" := by decide +kernel

end Fxp.C11
