import FxpVerif.Model.Scale
import FxpVerif.Props.C01
import FxpVerif.Props.C05
/-! # C17 — scale and bias act as an exact affine wrapper around the stored code -/
namespace Fxp.C17

/-- storing `v` into a scaled object stores the C01 quantization of `(v - b) / s`. -/
theorem scaled_store (f : Fmt) (hw : 0 < f.nword) (r : Rounding) (o : Overflow) (s b v : ℚ) :
    C01.Spec f r o ((v - b) / s) (storeScaled f r o s b v) := by
  unfold storeScaled toInner; exact C01.quantize_spec f r o _

/-- reading returns `s · code · 2^-n_frac + b`. -/
theorem scaled_read (f : Fmt) (s b : ℚ) (c : ℤ) :
    readScaled f s b c = s * ((c:ℚ) * (2:ℚ) ^ (-f.nfrac)) + b := by
  unfold readScaled fromInner; rw [valueOf_eq]

/-- upper, lower and precision are the unscaled ones mapped through the same affine map (precision through `s` only),
literally — also for a negative scale. -/
theorem scaled_limits (f : Fmt) (s b : ℚ) :
    upperScaled f s b = s * ((f.hi:ℚ) * (2:ℚ) ^ (-f.nfrac)) + b ∧
    lowerScaled f s b = s * ((f.lo:ℚ) * (2:ℚ) ^ (-f.nfrac)) + b ∧
    precisionScaled f s = s * (2:ℚ) ^ (-f.nfrac) := by
  unfold upperScaled lowerScaled precisionScaled fromInner
  simp only [valueOf_eq, Int.cast_one, one_mul, and_self]

/-- the affine map and its inverse cancel (`s ≠ 0`). -/
theorem from_to_inner (s b v : ℚ) (hs : s ≠ 0) : fromInner s b (toInner s b v) = v := by
  unfold fromInner toInner; rw [mul_div_cancel₀ _ hs, sub_add_cancel]

theorem to_from_inner (s b x : ℚ) (hs : s ≠ 0) : toInner s b (fromInner s b x) = x := by
  unfold toInner fromInner; rw [add_sub_cancel_right, mul_div_cancel_left₀ _ hs]

/-- **round trip**: a non-overflowing input is read back within `|s| · LSB`. -/
theorem scaled_roundtrip_err (f : Fmt) (hw : 0 < f.nword) (r : Rounding) (o : Overflow) (s b v : ℚ) (hs : s ≠ 0)
    (hno : C05.NoOverflow f (toInner s b v)) :
    |readScaled f s b (storeScaled f r o s b v) - v| < |s| * (2:ℚ) ^ (-f.nfrac) := by
  -- `v` is `s·u + b` with `u` the inner value; the affine map stretches the error of storing `u` by `|s|`
  obtain ⟨u, rfl⟩ : ∃ u, v = fromInner s b u := ⟨_, (from_to_inner s b v hs).symm⟩
  rw [to_from_inner s b u hs] at hno
  have herr := C05.err_lt_lsb f hw r o u hno
  rw [C05.ErrLtLsb, C05.val_eq_valueOf] at herr
  rw [readScaled, storeScaled, to_from_inner s b u hs, fromInner, fromInner, add_sub_add_right_eq_sub, ← mul_sub, abs_mul]
  exact mul_lt_mul_of_pos_left herr (abs_pos.mpr hs)

/-- exact read-back when the inner value is representable. -/
theorem scaled_exact_if_repr (f : Fmt) (hw : 0 < f.nword) (r : Rounding) (o : Overflow) (s b : ℚ) (hs : s ≠ 0) (c : ℤ)
    (h : f.InRange c) : readScaled f s b (storeScaled f r o s b (fromInner s b (valueOf f c))) = fromInner s b (valueOf f c) := by
  rw [storeScaled, readScaled, to_from_inner s b _ hs, quantize_valueOf f hw r o c h]

/-- flags are raised on the same conditions as for the unscaled value `(v - b) / s`. -/
theorem scaled_flags_eq_unscaled (f : Fmt) (r : Rounding) (o : Overflow) (s b v : ℚ) :
    flagsScaled f r o s b v = storeFlags f r o ((v - b) / s) := rfl

/-- size inference for scaled objects sizes the transformed values. -/
theorem scaled_infer (signed : Option Bool) (s b : ℚ) (vals : List ℚ) :
    inferScaled signed s b vals = inferFmt signed none none none (vals.map (fun v => (v - b) / s)) := rfl

/-! non-vacuity -/
example : storeScaled ⟨false, 8, 0⟩ .trunc .saturate 1 (-2) 3 = 5 := by decide +kernel      -- D11 witness
example : readScaled ⟨false, 8, 0⟩ 1 (-2) 5 = 3 := by decide +kernel
example : upperScaled ⟨true, 8, 2⟩ (-2) 1 = -125/2 := by decide +kernel

end Fxp.C17
