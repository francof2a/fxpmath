import FxpVerif.Model.Heap
import Mathlib.Tactic.Ring
/-! # C20 — objects are independent and inputs are never mutated -/
namespace Fxp.C20

/-! ### `lookup` and `update` -/

theorem lookup_cons {α} (p : ℕ × α) (l : List (ℕ × α)) (k : ℕ) (d : α) :
    lookup (p :: l) k d = if p.1 = k then p.2 else lookup l k d := by
  unfold lookup
  by_cases hp : p.1 = k
  · rw [List.find?_cons_of_pos (by simpa using hp), if_pos hp]
  · rw [List.find?_cons_of_neg (by simpa using hp), if_neg hp]

theorem lookup_cons_ne {α} {l : List (ℕ × α)} {k k' : ℕ} {v d : α} (h : k' ≠ k) :
    lookup ((k, v) :: l) k' d = lookup l k' d := by
  rw [lookup_cons, if_neg h.symm]

theorem update_cons {α} (p : ℕ × α) (l : List (ℕ × α)) (k : ℕ) (v : α) :
    update (p :: l) k v = (if p.1 = k then (k, v) else p) :: update l k v := by
  simp only [update, List.map_cons, beq_iff_eq]

theorem lookup_update_ne {α} {l : List (ℕ × α)} {k k' : ℕ} {v d : α} (h : k' ≠ k) :
    lookup (update l k v) k' d = lookup l k' d := by
  induction l with
  | nil => rfl
  | cons p t ih =>
    rw [update_cons, lookup_cons, lookup_cons, ih]
    by_cases hp : p.1 = k
    · rw [if_pos hp, if_neg h.symm, if_neg (hp ▸ h.symm)]
    · rw [if_neg hp]

theorem lookup_update_self {α} {l : List (ℕ × α)} {k : ℕ} {v d : α} (hk : ∃ p ∈ l, p.1 = k) :
    lookup (update l k v) k d = v := by
  induction l with
  | nil => obtain ⟨_, h, _⟩ := hk; cases h
  | cons p t ih =>
    rw [update_cons, lookup_cons]
    by_cases hp : p.1 = k
    · rw [if_pos hp, if_pos rfl]
    · rw [if_neg hp, if_neg hp]
      obtain ⟨q, hq, hqk⟩ := hk
      exact ih ⟨q, (List.mem_cons.mp hq).resolve_left fun e => hp (e ▸ hqk), hqk⟩

/-! ### the no-sharing invariant -/

/-- heap invariant: every reference of a live object is below the allocation counter, and no two live
objects refer to the same config cell or the same status cell. (It does not speak of buffers: a view shares its base's.) -/
def Inv (h : Heap) : Prop :=
  (∀ x ∈ h.objs, x.cfg < h.next ∧ x.st < h.next ∧ x.buf < h.next) ∧
  h.objs.Pairwise (fun x y => x.cfg ≠ y.cfg ∧ x.st ≠ y.st)

theorem inv_empty : Inv emptyHeap := ⟨List.forall_mem_nil _, .nil⟩

/-- **fresh allocation**: no live object refers to the cells `h.next`, `h.next + 1`, `h.next + 2` that `alloc` gives the object it
creates (the statement names the cells, not `alloc`). -/
theorem alloc_fresh (h : Heap) (hi : Inv h) (name : String) (fmt : Fmt) (rows cols : ℕ) (c : Cfg) (fl : Flags3) (cs : List ℤ) :
    ∀ x ∈ h.objs, x.cfg ≠ h.next ∧ x.st ≠ h.next + 1 ∧ x.buf ≠ h.next + 2 ∧
      x.cfg ≠ h.next + 1 ∧ x.st ≠ h.next ∧ x.buf ≠ h.next := by
  intro x hx
  obtain ⟨a, b, c'⟩ := hi.1 x hx
  omega

theorem inv_append {h h' : Heap} (hi : Inv h) {y : HObj} (ho : h'.objs = h.objs ++ [y])
    (hc : h.next ≤ y.cfg) (hs : h.next ≤ y.st) (hy : y.cfg < h'.next ∧ y.st < h'.next ∧ y.buf < h'.next) : Inv h' := by
  have hn : h.next ≤ h'.next := hc.trans hy.1.le
  unfold Inv
  rw [ho, List.pairwise_append]
  refine ⟨fun z hz => ?_, hi.2, List.pairwise_singleton _ _, fun z hz w hw => ?_⟩
  · rcases List.mem_append.mp hz with hz | hz
    · obtain ⟨a, b, c⟩ := hi.1 z hz
      exact ⟨a.trans_le hn, b.trans_le hn, c.trans_le hn⟩
    · rwa [List.mem_singleton.mp hz]
  · obtain ⟨a, b, _⟩ := hi.1 z hz
    rw [List.mem_singleton.mp hw]
    exact ⟨(a.trans_le hc).ne, (b.trans_le hs).ne⟩

theorem inv_alloc (h : Heap) (hi : Inv h) (name : String) (fmt : Fmt) (rows cols : ℕ) (c : Cfg) (fl : Flags3) (cs : List ℤ) :
    Inv (h.alloc name fmt rows cols c fl cs) :=
  inv_append hi rfl (Nat.le_refl _) (Nat.le_succ _) (by simp only [Heap.alloc]; omega)

/-- the invariant speaks of config and status cells only: the objects may be re-pointed to any buffers below the
allocation counter. -/
theorem inv_map {h h' : Heap} (hi : Inv h) (f : HObj → HObj) (ho : h'.objs = h.objs.map f) (hn : h.next ≤ h'.next)
    (hf : ∀ o, (f o).cfg = o.cfg ∧ (f o).st = o.st ∧ ((f o).buf = o.buf ∨ (f o).buf < h'.next)) : Inv h' := by
  unfold Inv
  rw [ho, List.pairwise_map]
  refine ⟨fun y hy => ?_, hi.2.imp fun {x y} hxy => by rwa [(hf x).1, (hf x).2.1, (hf y).1, (hf y).2.1]⟩
  obtain ⟨z, hz, rfl⟩ := List.mem_map.mp hy
  obtain ⟨a, b, c⟩ := hi.1 z hz
  obtain ⟨ha, hb, hc⟩ := hf z
  rw [ha, hb]
  exact ⟨a.trans_le hn, b.trans_le hn, hc.elim (fun e => e ▸ c.trans_le hn) id⟩

/-- updating cells (config, status, buffer contents) without touching the object table keeps the invariant. -/
theorem inv_cells (h h' : Heap) (hi : Inv h) (ho : h'.objs = h.objs) (hn : h.next ≤ h'.next) : Inv h' :=
  inv_map hi id (by rw [ho, List.map_id]) hn fun _ => ⟨rfl, rfl, .inl rfl⟩

/-- the steps that create an object (all public derivation routes of the model). -/
def isDerive : HStep → Bool
  | .write .. | .windex .. | .setCfg .. | .reset .. => false
  | _ => true

/-- every creating step leaves the heap as it was (an operand is missing, or there is no result format), allocates, or makes a
view (row, strided slice or column): a new object with fresh config and status cells on the buffer of a live object. -/
theorem step_derive_cases {P : Heap → Prop} (h : Heap) (s : HStep) (hd : isDerive s = true) (same : P h)
    (alloc : ∀ name fmt rows cols c fl cs, P (h.alloc name fmt rows cols c fl cs))
    (view : ∀ x ∈ h.objs, ∀ c y, y.cfg = h.next → y.st = h.next + 1 → y.buf = x.buf →
      P { h with next := h.next + 2, cfgs := (h.next, c) :: h.cfgs, sts := (h.next + 1, clean) :: h.sts,
                 objs := h.objs ++ [y] }) :
    P (h.step s) := by
  cases s with
  | write | windex | setCfg | reset => cases hd
  | create => exact alloc ..
  | index | slice | column =>
    rw [Heap.step]; split
    · exact same
    · next x hx => exact view x (List.mem_of_find?_eq_some hx) _ _ rfl rfl rfl
  -- the goals after `split` come in the order of the `match` arms of `Heap.step`
  | add => rw [Heap.step]; split; split; exacts [same, alloc .., same]   -- no result format / allocated / an operand missing
  | likeM => rw [Heap.step]; split; exacts [alloc .., same]              -- both found / one missing
  | _ => rw [Heap.step]; split; exacts [same, alloc ..]                  -- the source missing / found

/-- the no-sharing invariant is preserved by every operation … -/
theorem inv_step (h : Heap) (hi : Inv h) (s : HStep) : Inv (h.step s) := by
  cases hd : isDerive s with
  | true =>
    refine step_derive_cases h s hd hi (inv_alloc h hi) fun x hx c y hc hs hb => ?_
    have := (hi.1 x hx).2.2
    exact inv_append hi rfl (by omega) (by omega) (by simp only; omega)
  | false =>
    cases s with
    | write a vs =>
      rw [Heap.step]; split
      · exact hi
      · exact inv_map hi _ rfl (Nat.le_succ _) fun o => by
          split
          exacts [⟨rfl, rfl, .inr (Nat.lt_succ_self _)⟩, ⟨rfl, rfl, .inl rfl⟩]
    | windex | setCfg | reset => rw [Heap.step]; split; exacts [hi, inv_cells h _ hi rfl le_rfl]
    | _ => cases hd

theorem inv_run (h : Heap) (hi : Inv h) (hist : List HStep) : Inv (h.run hist) := by
  induction hist generalizing h with
  | nil => exact hi
  | cons s rest ih => exact ih _ (inv_step h hi s)

/-- … hence holds in every reachable heap (induction over the history). -/
theorem no_sharing_invariant (hist : List HStep) : Inv (emptyHeap.run hist) :=
  inv_run _ inv_empty hist

/-! ### derivation never changes what already exists -/

/-- everything one can observe of an object: its codes, flags and configuration. -/
def Obs (h : Heap) (y : HObj) : List ℤ × Flags3 × Cfg := (h.codes y, h.flagsOf y, h.cfgOf y)

theorem obs_congr {h h' : Heap} {y : HObj} (hb : lookup h'.bufs y.buf [] = lookup h.bufs y.buf [])
    (hs : lookup h'.sts y.st clean = lookup h.sts y.st clean)
    (hc : lookup h'.cfgs y.cfg defaultCfg = lookup h.cfgs y.cfg defaultCfg) : Obs h' y = Obs h y := by
  unfold Obs Heap.codes Heap.flagsOf Heap.cfgOf
  rw [hb, hs, hc]

theorem alloc_obs (h : Heap) {y : HObj} (hy : y.cfg < h.next ∧ y.st < h.next ∧ y.buf < h.next) (name : String) (fmt : Fmt)
    (rows cols : ℕ) (c : Cfg) (fl : Flags3) (cs : List ℤ) : Obs (h.alloc name fmt rows cols c fl cs) y = Obs h y :=
  obs_congr (lookup_cons_ne (by omega)) (lookup_cons_ne (by omega)) (lookup_cons_ne (by omega))

/-- **operands, templates and sources are never modified by a derivation**: after any creating step — constructor,
`like=`, `deepcopy`, `like()`, conversion, `+`, `~`, `<<`, `>>`, indexing, slicing — every object that existed before
shows the same codes, flags and configuration. -/
theorem derive_preserves (h : Heap) (hi : Inv h) (s : HStep) (hd : isDerive s = true) (y : HObj) (hy : y ∈ h.objs) :
    Obs (h.step s) y = Obs h y := by
  have hc := hi.1 y hy
  exact step_derive_cases (P := fun h' => Obs h' y = Obs h y) h s hd rfl (alloc_obs h hc)
    fun _ _ _ _ _ _ _ => obs_congr rfl (lookup_cons_ne (by omega)) (lookup_cons_ne (by omega))

/-- `derive_preserves` along every history: in every reachable heap a creating step changes no existing object. -/
theorem derive_preserves_reachable (hist : List HStep) (s : HStep) (hd : isDerive s = true) (y : HObj)
    (hy : y ∈ (emptyHeap.run hist).objs) :
    Obs ((emptyHeap.run hist).step s) y = Obs (emptyHeap.run hist) y :=
  derive_preserves _ (no_sharing_invariant hist) s hd y hy

/-! ### frame properties: a mutation of one object leaves the others alone -/

/-- changing the configuration of `x` does not change the configuration of any object with another config cell. -/
theorem frame_setCfg (h : Heap) (a : String) (c : Cfg) (x y : HObj) (hx : h.find a = some x) (hne : y.cfg ≠ x.cfg) :
    (h.step (.setCfg a c)).cfgOf y = h.cfgOf y ∧ (h.step (.setCfg a c)).flagsOf y = h.flagsOf y ∧
    (h.step (.setCfg a c)).codes y = h.codes y := by
  simp only [Heap.step, hx, Heap.cfgOf, Heap.flagsOf, Heap.codes]
  exact ⟨lookup_update_ne hne, trivial, trivial⟩

/-- resetting `x` clears only the status cell of `x`. -/
theorem frame_reset (h : Heap) (a : String) (x y : HObj) (hx : h.find a = some x) (hne : y.st ≠ x.st) :
    (h.step (.reset a)).flagsOf y = h.flagsOf y ∧ (h.step (.reset a)).cfgOf y = h.cfgOf y ∧
    (h.step (.reset a)).codes y = h.codes y := by
  simp only [Heap.step, hx, Heap.cfgOf, Heap.flagsOf, Heap.codes]
  exact ⟨lookup_update_ne hne, trivial, trivial⟩

/-- an indexed write to `x` changes neither the values of an object on another buffer, nor its flags/config
(when it owns another status cell). -/
theorem frame_windex (h : Heap) (a : String) (i : ℕ) (v : ℚ) (x y : HObj) (hx : h.find a = some x)
    (hb : y.buf ≠ x.buf) (hs : y.st ≠ x.st) :
    (h.step (.windex a i v)).codes y = h.codes y ∧ (h.step (.windex a i v)).flagsOf y = h.flagsOf y ∧
    (h.step (.windex a i v)).cfgOf y = h.cfgOf y := by
  simp only [Heap.step, hx, Heap.cfgOf, Heap.flagsOf, Heap.codes]
  exact ⟨by rw [lookup_update_ne hb], lookup_update_ne hs, trivial⟩

/-- a whole-value write gives `x` a new buffer: every object on another status cell is unchanged —
including former views of `x`, which keep the old buffer. -/
theorem frame_write (h : Heap) (hi : Inv h) (a : String) (vs : List ℚ) (x y : HObj) (hx : h.find a = some x) (hy : y ∈ h.objs)
    (hs : y.st ≠ x.st) :
    (h.step (.write a vs)).codes y = h.codes y ∧ (h.step (.write a vs)).flagsOf y = h.flagsOf y ∧
    (h.step (.write a vs)).cfgOf y = h.cfgOf y := by
  simp only [Heap.step, hx, Heap.cfgOf, Heap.flagsOf, Heap.codes]
  exact ⟨by rw [lookup_cons_ne (hi.1 y hy).2.2.ne], lookup_update_ne hs, trivial⟩

/-- in a reachable heap two *distinct* live objects never share a config or status cell, so the two frame
premises above hold for every other object. -/
theorem distinct_cells (h : Heap) (hi : Inv h) (i j : ℕ) (hi' : i < h.objs.length) (hj : j < h.objs.length) (hij : i ≠ j) :
    (h.objs[i]).cfg ≠ (h.objs[j]).cfg ∧ (h.objs[i]).st ≠ (h.objs[j]).st := by
  rcases Nat.lt_or_gt_of_ne hij with hlt | hgt
  · exact List.pairwise_iff_getElem.mp hi.2 i j hi' hj hlt
  · have := List.pairwise_iff_getElem.mp hi.2 j i hj hi' hgt
    exact ⟨this.1.symm, this.2.symm⟩

/-- the object a mutating step acts on. -/
def target : HStep → Option String
  | .write a _ => some a | .windex a _ _ => some a | .setCfg a _ => some a | .reset a => some a
  | _ => none

/-- **a mutation of one object never changes another**: whatever the mutating step (whole write, indexed write,
configuration change, reset) on `x`, an object `y` that owns other config and status cells (every other object of a
reachable heap does, `distinct_cells`) and lives on another buffer (every object that is not a view of `x` or of `x`'s
base) shows the same codes, flags and configuration afterwards. -/
theorem mutation_frame (h : Heap) (hi : Inv h) (s : HStep) (a : String) (x y : HObj) (ht : target s = some a)
    (hx : h.find a = some x) (hy : y ∈ h.objs) (hc : y.cfg ≠ x.cfg) (hs : y.st ≠ x.st) (hb : y.buf ≠ x.buf) :
    Obs (h.step s) y = Obs h y := by
  cases s with
  | write b vs => cases ht; simp only [Obs, frame_write h hi a vs x y hx hy hs]
  | windex b i v => cases ht; simp only [Obs, frame_windex h a i v x y hx hb hs]
  | setCfg b c => cases ht; simp only [Obs, frame_setCfg h a c x y hx hc]
  | reset b => cases ht; simp only [Obs, frame_reset h a x y hx hs]
  | _ => cases ht

/-! ### views: indexing is the one documented exception -/

/-- a view refers to its base's buffer: fresh config and status, **shared** buffer window. -/
theorem index_shares_buffer (h : Heap) (v a : String) (i : ℕ) (x : HObj) (hx : h.find a = some x) :
    ∃ y, (h.step (.index v a i)).objs = h.objs ++ [y] ∧ y.buf = x.buf ∧ y.off = x.off + i * x.cols ∧ y.len = x.cols ∧
      y.stride = 1 ∧ y.cfg = h.next ∧ y.st = h.next + 1 := by
  simp only [Heap.step, hx]
  exact ⟨_, rfl, rfl, rfl, rfl, rfl, rfl, rfl⟩

/-- position of element `k` of a contiguous object. -/
theorem pos_contig (x : HObj) (hs : x.stride = 1) (k : ℕ) : x.pos k = x.off + k := by
  unfold HObj.pos; rw [hs, mul_one, ← Nat.cast_add, Int.toNat_natCast]

/-- a strided slice and a column are views too: fresh config and status, **shared** buffer. -/
theorem slice_shares_buffer (h : Heap) (v a : String) (start : ℕ) (step : ℤ) (n : ℕ) (x : HObj) (hx : h.find a = some x) :
    ∃ y, (h.step (.slice v a start step n)).objs = h.objs ++ [y] ∧ y.buf = x.buf ∧ y.off = x.pos start ∧ y.len = n ∧
      y.stride = x.stride * step ∧ y.cfg = h.next ∧ y.st = h.next + 1 := by
  simp only [Heap.step, hx]
  exact ⟨_, rfl, rfl, rfl, rfl, rfl, rfl, rfl⟩

theorem column_shares_buffer (h : Heap) (v a : String) (j : ℕ) (x : HObj) (hx : h.find a = some x) :
    ∃ y, (h.step (.column v a j)).objs = h.objs ++ [y] ∧ y.buf = x.buf ∧ y.off = x.off + j ∧ y.len = x.rows ∧
      y.stride = (x.cols : ℤ) ∧ y.cfg = h.next ∧ y.st = h.next + 1 := by
  simp only [Heap.step, hx]
  exact ⟨_, rfl, rfl, rfl, rfl, rfl, rfl, rfl⟩

/-- element `j` of the slice `a[start::step]` **is** element `start + j*step` of `a` (same buffer position), for
positive and negative steps, also when `a` is itself a strided view. -/
theorem slice_pos (x y : HObj) (start : ℕ) (step : ℤ) (j : ℕ) (hoff : y.off = x.pos start) (hst : y.stride = x.stride * step)
    (hnn : 0 ≤ (x.off : ℤ) + start * x.stride) (hk : 0 ≤ (start : ℤ) + j * step) :
    y.pos j = x.pos ((start : ℤ) + j * step).toNat := by
  unfold HObj.pos at *
  rw [hoff, hst, Int.toNat_of_nonneg hnn, Int.toNat_of_nonneg hk]
  congr 1
  ring

/-- element `i` of the column `a[:, j]` of a row-major 2-D object **is** element `(i, j)` of `a`. -/
theorem column_pos (x y : HObj) (i j : ℕ) (hoff : y.off = x.off + j) (hst : y.stride = (x.cols : ℤ)) (hx : x.stride = 1) :
    y.pos i = x.pos (i * x.cols + j) := by
  rw [pos_contig x hx, HObj.pos, hoff, hst, ← Nat.cast_mul, ← Nat.cast_add, Int.toNat_natCast, Nat.add_assoc,
    Nat.add_comm j]

theorem writeWindow_get (buf : List ℤ) (off : ℕ) (vals : List ℤ) (hoff : off ≤ buf.length) (i : ℕ)
    (hi : i < vals.length) : (writeWindow buf off vals)[off + i]? = vals[i]? := by
  unfold writeWindow
  rw [List.append_assoc, List.getElem?_append_right (by rw [List.length_take]; omega), List.length_take,
    Nat.min_eq_left hoff, Nat.add_sub_cancel_left, List.getElem?_append_left hi]

/-- **write-through**: writing element `j` of a view (row, strided slice or column) changes the element at the
view's position `pos j` of the shared buffer, i.e. `x[i][j] = v`, `x[::2][j] = v`, `x[:, c][j] = v` store into `x`. -/
theorem index_write_through (h : Heap) (vname : String) (j : ℕ) (val : ℚ) (y : HObj) (hy : h.find vname = some y)
    (hlen : y.pos j < (lookup h.bufs y.buf []).length) (hmem : ∃ p ∈ h.bufs, p.1 = y.buf) :
    let h' := h.step (.windex vname j val)
    (lookup h'.bufs y.buf [])[y.pos j]? =
      some ((storeConds y.fmt (h.cfgOf y) [scale val y.fmt.nfrac]).1.headD 0) := by
  simp only [Heap.step, hy]
  rw [lookup_update_self hmem]
  -- the window written is the singleton `cs` of one stored code, so `cs[0]? = some (cs.headD 0)` by computation
  exact writeWindow_get _ _ _ hlen.le 0 Nat.zero_lt_one

/-- … and the base object reads the written code back at that element: after `v[j] = val` on a view `v` of `x`,
element `k` of `x` with `x.pos k = v.pos j` holds the stored code. -/
theorem write_through_read (h : Heap) (vname : String) (j k : ℕ) (val : ℚ) (x y : HObj) (hy : h.find vname = some y)
    (hb : x.buf = y.buf) (hpos : x.pos k = y.pos j) (hk : k < x.len)
    (hlen : y.pos j < (lookup h.bufs y.buf []).length) (hmem : ∃ p ∈ h.bufs, p.1 = y.buf) :
    ((h.step (.windex vname j val)).codes x)[k]? =
      some ((storeConds y.fmt (h.cfgOf y) [scale val y.fmt.nfrac]).1.headD 0) := by
  have hw := index_write_through h vname j val y hy hlen hmem
  unfold Heap.codes
  rw [List.getElem?_map, List.getElem?_range hk, Option.map_some, hb, hpos, hw]
  rfl

/-! ### configuration values -/

/-- the valid values of the two behavioural options; anything else is rejected (observed on the implementation
for every `Config` field by the `BCF` lines). -/
def validRounding (s : String) : Bool := s ∈ ["trunc", "fix", "floor", "ceil", "around"]
def validOverflow (s : String) : Bool := s ∈ ["saturate", "wrap"]

theorem config_reject : validRounding "nearest" = false ∧ validOverflow "clip" = false ∧
    validRounding "around" = true ∧ validOverflow "wrap" = true := by decide

/-! non-vacuity: a derive-then-mutate history -/
example : Inv (emptyHeap.run [.create "a" ⟨true, 8, 2⟩ 0 3, .deepcopy "b" "a", .setCfg "b" ⟨.ceil, .wrap⟩]) :=
  no_sharing_invariant _

/-! non-vacuity of the strided views: `v = a[::-1]; v[0] = 7` writes the last element of `a`; `c = m[:, 1]; c[1] = 5`
writes element (1, 1) of the 2×3 object `m`. -/
example : (let h := emptyHeap.run [.create "a" ⟨true, 8, 0⟩ 0 5, .slice "v" "a" 4 (-1) 5, .windex "v" 0 7]
    (h.find "a").map h.codes) = some [0, 0, 0, 0, 7] := by decide +kernel
example : (let h := emptyHeap.run [.create "m" ⟨true, 8, 0⟩ 2 3, .column "c" "m" 1, .windex "c" 1 5]
    (h.find "m").map h.codes) = some [0, 0, 0, 0, 5, 0] := by decide +kernel

end Fxp.C20
