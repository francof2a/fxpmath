import FxpVerif.Model.Carrier
import FxpVerif.Props.C07
import FxpVerif.Props.C09
/-! # C19 — no silent wrap at the 64-bit machine boundary -/
namespace Fxp.C19
open C07

theorem wrapI64_of_fits (z : ℤ) (h : FitsI64 z) : wrapI64 z = z := by
  unfold wrapI64 FitsI64 at *
  apply Int.bmod_eq_of_le <;> omega

theorem wrapI64_wrapU64 (z : ℤ) (h : FitsI64 z) : wrapI64 (wrapU64 z) = z := by
  -- `Int.emod_bmod` wants the modulus as a cast natural number
  have e : (2:ℤ) ^ 64 = ((2 ^ 64 : ℕ) : ℤ) := by norm_num
  unfold wrapU64
  rw [e]
  unfold wrapI64
  rw [Int.emod_bmod]
  exact wrapI64_of_fits z h

/-- the bound `2^62` is for `int64` (and `uint64` re-read as `int64`), `2^52` for `float64`, the carrier where a signed operand
meets an unsigned one. -/
theorem machineResult_exact (np : Bool) (x y : Fmt) (z : ℤ)
    (h : np = false → |z| ≤ 2 ^ 62 ∧ (x.signed ≠ y.signed → |z| ≤ 2 ^ 52)) :
    machineResult (machinePath np x y) z = some z := by
  unfold machinePath
  split
  · rfl
  · rename_i hpy
    obtain ⟨h62, h52⟩ := h (by cases np <;> [rfl; exact absurd rfl hpy])
    have fits : FitsI64 z := by rw [abs_le] at h62; constructor <;> omega
    -- the two sign bits decide the carrier
    cases hsx : x.signed <;> cases hsy : y.signed
    · exact congrArg some (wrapI64_wrapU64 z fits)
    · have := abs_le.mp (h52 (by simp [hsx, hsy])); exact if_pos (by constructor <;> omega)
    · have := abs_le.mp (h52 (by simp [hsx, hsy])); exact if_pos (by constructor <;> omega)
    · exact congrArg some (wrapI64_of_fits z fits)

/-- the shape the selection rules share: `addNeedsPyInt` (`_add_raw` / `_sub_raw` / `_mod_raw`) with `B = addBits`,
`mulNeedsPyInt` (`_mul_raw`) with `B = mulBits`. -/
theorem bits_le_of_not_needsPyInt {F B : ℤ} {sx sy : Bool}
    (h : (decide (64 ≤ F) || decide (63 ≤ B) || (sx != sy && decide (53 ≤ B))) = false) : B ≤ 62 ∧ (sx ≠ sy → B ≤ 52) := by
  simp only [Bool.or_eq_false_iff, decide_eq_false_iff_not, Bool.and_eq_false_iff, bne_eq_false_iff_eq] at h
  exact ⟨by omega, fun hs => by rcases h.2 with h | h <;> [exact absurd h hs; omega]⟩

/-- at the common fraction length neither alignment shift is negative (for the exact-path obligations of `Gen/Tie`). -/
theorem addBits_max (x y : Fmt) : addBits x y (max x.nfrac y.nfrac) =
    max ((x.nword : ℤ) + (max x.nfrac y.nfrac - x.nfrac)) (y.nword + (max x.nfrac y.nfrac - y.nfrac)) + 1 := by
  rw [addBits, max_eq_left (sub_nonneg.mpr (le_max_left ..)), max_eq_left (sub_nonneg.mpr (le_max_right ..))]

theorem aligned_abs_le (x y : Fmt) (F : ℤ) (a b : ℤ) (ha : x.InRange a) (hb : y.InRange b) (N : ℕ) (hN : addBits x y F ≤ N + 1) :
    |a * 2 ^ (F - x.nfrac).toNat| ≤ 2 ^ N ∧ |b * 2 ^ (F - y.nfrac).toNat| ≤ 2 ^ N := by
  obtain ⟨hx, hy⟩ := max_le_iff.mp (Int.le_of_add_le_add_right hN)
  exact ⟨abs_shl_le (abs_le_of_inRange ha) (by omega), abs_shl_le (abs_le_of_inRange hb) (by omega)⟩

/-- the bound is asked for every `N` because the rule has two thresholds: it is used at `N = 61` (64-bit integers) and
`N = 51` (`float64`). -/
theorem machineResult_of_addBits (x y : Fmt) (F : ℤ) (z : ℤ) (hz : ∀ N : ℕ, addBits x y F ≤ N + 1 → |z| ≤ 2 ^ (N + 1)) :
    machineResult (machinePath (addNeedsPyInt x y F) x y) z = some z := by
  apply machineResult_exact
  intro hnp
  obtain ⟨h62, h52⟩ := bits_le_of_not_needsPyInt hnp
  exact ⟨hz 61 h62, fun hs => hz 51 (h52 hs)⟩

/-- **add / sub**: whenever the selection rule keeps a machine carrier, the aligned sum / difference fits it, so the
machine result is exact (for optimal sizing, `F = max n_frac`). -/
theorem add_path_exact (x y : Fmt) (hx : x.WF) (hy : y.WF) (a b : ℤ) (ha : x.InRange a) (hb : y.InRange b) :
    machineResult (machinePath (addNeedsPyInt x y (max x.nfrac y.nfrac)) x y) (sumCode x y a b) = some (sumCode x y a b) ∧
    machineResult (machinePath (addNeedsPyInt x y (max x.nfrac y.nfrac)) x y) (diffCode x y a b) = some (diffCode x y a b) := by
  have key (N : ℕ) (hN : addBits x y (max x.nfrac y.nfrac) ≤ N + 1) : |a * 2 ^ kx x y| ≤ 2 ^ N ∧ |b * 2 ^ ky x y| ≤ 2 ^ N :=
    aligned_abs_le x y _ a b ha hb N hN
  refine ⟨machineResult_of_addBits x y _ _ fun N hN => ?_, machineResult_of_addBits x y _ _ fun N hN => ?_⟩ <;>
    obtain ⟨hA, hB⟩ := key N hN
  · exact (abs_add_le ..).trans (by rw [pow_succ]; omega)
  · exact (abs_sub ..).trans (by rw [pow_succ]; omega)

/-- the Python-style remainder of two integers (sign of the divisor), as an integer. -/
def pyMod (A B : ℤ) : ℤ := A - B * ⌊(A : ℚ) / (B : ℚ)⌋

/-- `pyMod` is `exactOp .mod` on integers (the sign and size facts about the remainder are in C09, on rationals). -/
theorem pyMod_cast (A B : ℤ) : ((pyMod A B : ℤ) : ℚ) = exactOp .mod (A:ℚ) (B:ℚ) := by
  rw [pyMod, Int.cast_sub, Int.cast_mul]; rfl

theorem abs_pyMod_le (A B : ℤ) (hB : B ≠ 0) : |pyMod A B| ≤ |B| := by
  -- the divisor times a fractional part
  rw [← Int.cast_le (R := ℚ), Int.cast_abs, Int.cast_abs, pyMod_cast, C09.mod_eq_mul_fract _ _ (Int.cast_ne_zero.mpr hB), abs_mul,
    abs_of_nonneg (Int.fract_nonneg ((A:ℚ) / B))]
  exact mul_le_of_le_one_right (abs_nonneg _) (Int.fract_lt_one _).le

/-- **mod** (`_mod_raw` with the selection rule of add/sub, repair D20): whenever a machine carrier is kept, both aligned
operands and their remainder fit it, so `x % y` is computed exactly; beyond that Python integers are used. -/
theorem mod_path_exact (x y : Fmt) (hx : x.WF) (hy : y.WF) (a b : ℤ) (ha : x.InRange a) (hb : y.InRange b) (hb0 : b ≠ 0) :
    let p := machinePath (addNeedsPyInt x y (max x.nfrac y.nfrac)) x y
    let A := a * 2 ^ kx x y
    let B := b * 2 ^ ky x y
    machineResult p A = some A ∧ machineResult p B = some B ∧ machineResult p (pyMod A B) = some (pyMod A B) := by
  intro p A B
  have hB0 : B ≠ 0 := mul_ne_zero hb0 (by positivity)
  have hR := abs_pyMod_le A B hB0
  have key (N : ℕ) (hN : addBits x y (max x.nfrac y.nfrac) ≤ N + 1) :
      |A| ≤ 2 ^ (N + 1) ∧ |B| ≤ 2 ^ (N + 1) ∧ |pyMod A B| ≤ 2 ^ (N + 1) := by
    obtain ⟨hA, hB⟩ : |A| ≤ 2 ^ N ∧ |B| ≤ 2 ^ N := aligned_abs_le x y _ a b ha hb N hN
    have := pow_mono2 (Nat.le_succ N)
    exact ⟨hA.trans this, hB.trans this, (hR.trans hB).trans this⟩
  exact ⟨machineResult_of_addBits x y _ _ fun N hN => (key N hN).1, machineResult_of_addBits x y _ _ fun N hN => (key N hN).2.1,
    machineResult_of_addBits x y _ _ fun N hN => (key N hN).2.2⟩

/-- the raw `%` kernel with optimal sizing **is** the Python remainder of the aligned codes. -/
theorem mod_kernel_eq_pyMod (x y : Fmt) (a b : ℤ) :
    rawKernel .mod (max x.nfrac y.nfrac) x y a b = ((pyMod (a * 2 ^ kx x y) (b * 2 ^ ky x y) : ℤ) : ℚ) := by
  unfold rawKernel fdivR pyMod
  simp only [scale_kx, scale_ky]
  push_cast
  rfl

/-- old rule of `_mod_raw` (Python integers only for `n_frac ≥ 64`): `u30/5 % u40/40` aligns the dividend by 35 bits on
uint64 and wraps (D20's witness). -/
theorem old_mod_rule_wraps :
    machineResult (machinePath (oldAddNeedsPyInt ⟨false, 30, 5⟩ ⟨false, 40, 40⟩ 40) ⟨false, 30, 5⟩ ⟨false, 40, 40⟩)
      (585797695 * 2 ^ 35) ≠ some (585797695 * 2 ^ 35) := by decide +kernel

/-- **mul**: the same for the product (no alignment shift with optimal sizing). -/
theorem mul_path_exact (x y : Fmt) (hx : x.WF) (hy : y.WF) (a b : ℤ) (ha : x.InRange a) (hb : y.InRange b) :
    machineResult (machinePath (mulNeedsPyInt x y (x.nfrac + y.nfrac)) x y) (a * b) = some (a * b) := by
  apply machineResult_exact
  intro hnp
  obtain ⟨h62, h52⟩ := bits_le_of_not_needsPyInt hnp
  unfold mulBits at h62 h52
  exact ⟨abs_mul_le_of_inRange ha hb (by omega), fun hs => abs_mul_le_of_inRange ha hb (by have := h52 hs; omega)⟩

/-- **storing a Python integer of any size** (`n_frac ≥ 0`) follows C01 exactly on the carrier the code selects. -/
theorem store_bigint_exact (f : Fmt) (hf : 0 ≤ f.nfrac) (r : Rounding) (o : Overflow) (v : ℤ) :
    machineStoreInt f o v = quantize f r o (v : ℚ) := by
  rw [quantize_intCast f hf]
  unfold machineStoreInt machineScaled
  split
  · rfl
  · rename_i hnp
    -- int64 path: both the integer and its scaled value fit
    have hnp' : storeNeedsPyInt f v = false := by simpa using hnp
    unfold storeNeedsPyInt at hnp'
    simp only [Bool.or_eq_false_iff, Bool.not_eq_false', decide_eq_true_eq, Bool.and_eq_false_iff,
      decide_eq_false_iff_not] at hnp'
    obtain ⟨⟨⟨hv, _⟩, hsc⟩, _⟩ := hnp'
    have : FitsI64 (v * 2 ^ f.nfrac.toNat) := by
      rcases hsc with h | h
      · have : f.nfrac.toNat = 0 := by omega
        rw [this]; simpa using hv
      · exact h
    rw [wrapI64_of_fits _ this]

/-! ### the defect of the pinned tree, exhibited on the old selection rules -/

/-- old rule: two sub-64-bit signed operands whose aligned sum needs 70 bits stay on int64 and wrap. -/
theorem old_add_rule_wraps :
    let x : Fmt := ⟨true, 60, 28⟩; let y : Fmt := ⟨true, 53, 11⟩
    machinePath (oldAddNeedsPyInt x y 28) x y = .int64 ∧
    machineResult .int64 (sumCode x y 269628599017038369 (-4503599627370495)) ≠
      some (sumCode x y 269628599017038369 (-4503599627370495)) := by
  decide +kernel

/-- old rule: `2^62` stored with `n_frac = 4` was scaled in int64 and wrapped to 0. -/
theorem old_store_rule_wraps :
    oldStoreNeedsPyInt ⟨true, 8, 4⟩ (2 ^ 62) = false ∧ wrapI64 (2 ^ 62 * 2 ^ 4) = 0 ∧
    storeNeedsPyInt ⟨true, 8, 4⟩ (2 ^ 62) = true := by
  decide +kernel

/-! non-vacuity: a machine path that is actually kept -/
example : machinePath (addNeedsPyInt ⟨true, 30, 10⟩ ⟨true, 20, 4⟩ 10) ⟨true, 30, 10⟩ ⟨true, 20, 4⟩ = .int64 := by decide +kernel
example : machinePath (addNeedsPyInt ⟨true, 60, 10⟩ ⟨true, 20, 4⟩ 10) ⟨true, 60, 10⟩ ⟨true, 20, 4⟩ = .int64 := by decide +kernel
example : machinePath (addNeedsPyInt ⟨true, 62, 10⟩ ⟨true, 20, 4⟩ 10) ⟨true, 62, 10⟩ ⟨true, 20, 4⟩ = .pyint := by decide +kernel

end Fxp.C19
