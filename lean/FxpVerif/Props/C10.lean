import FxpVerif.Model.Convert
import FxpVerif.Props.C01
/-! # C10 — format conversion gives the same correctly quantized value by every route -/
namespace Fxp.C10

/-- the shifted code handed to the destination's raw store is the exact source value scaled by the
destination's conversion factor — whether the shift is positive (integer) or negative (a float). -/
theorem shiftedCode_eq (src dst : Fmt) (c : ℤ) :
    shiftedCode src dst c = scale (valueOf src c) dst.nfrac := by
  rw [shiftedCode, scale_valueOf]

/-- **every route = requantisation**: the conversion step of the code equals the C01 quantization of the
exact source value into the destination under the destination's modes. -/
theorem convert_eq_requant (src dst : Fmt) (r : Rounding) (o : Overflow) (c : ℤ) :
    convertM src dst r o c = requant src dst r o c := by
  unfold convertM requant storeRawFloat quantize
  rw [shiftedCode_eq]

/-- and therefore satisfies the relational C01 statement for the source value. -/
theorem convert_spec (src dst : Fmt) (hd : 0 < dst.nword) (r : Rounding) (o : Overflow) (c : ℤ) :
    C01.Spec dst r o (valueOf src c) (convertM src dst r o c) := by
  rw [convert_eq_requant]; exact C01.quantize_spec dst r o _

/-- all routes are the same function of (source value, destination format, destination modes): any two
of them agree. That `resize`, `like`, `equal`, constructor / call / `set_val` / `__setitem__` from an `Fxp`
all hand `shiftedCode` to the raw store is read off the code and enters as `h₁`, `h₂`; it is not proved here. -/
theorem routes_agree (src dst : Fmt) (r : Rounding) (o : Overflow) (c : ℤ)
    (route₁ route₂ : Fmt → Fmt → Rounding → Overflow → ℤ → ℤ)
    (h₁ : route₁ = convertM) (h₂ : route₂ = convertM) :
    route₁ src dst r o c = route₂ src dst r o c := by rw [h₁, h₂]

/-- **value preserved exactly** whenever it is representable in the destination (any modes). -/
theorem requant_preserves_repr (src dst : Fmt) (hd : 0 < dst.nword) (r : Rounding) (o : Overflow) (c k : ℤ)
    (hk : dst.InRange k) (hv : valueOf dst k = valueOf src c) :
    requant src dst r o c = k ∧ valueOf dst (requant src dst r o c) = valueOf src c := by
  have : requant src dst r o c = k := by
    rw [requant, ← hv, quantize_valueOf dst hd r o k hk]
  exact ⟨this, by rw [this, hv]⟩

/-- converting to the same format is the identity on stored codes. -/
theorem convert_same_format (f : Fmt) (hw : 0 < f.nword) (r : Rounding) (o : Overflow) (c : ℤ) (h : f.InRange c) :
    convertM f f r o c = c := by
  rw [convert_eq_requant]
  exact (requant_preserves_repr f f hw r o c c h rfl).1

/-- flags of the conversion are the flags of storing the source value. -/
theorem convert_flags (src dst : Fmt) (r : Rounding) (c : ℤ) :
    convertFlags src dst r c =
      (decide (dst.hi < roundR r (scale (valueOf src c) dst.nfrac)),
       decide (roundR r (scale (valueOf src c) dst.nfrac) < dst.lo)) := by
  unfold convertFlags; rw [shiftedCode_eq]

def requantChain (src : Fmt) (c : ℤ) : List (Fmt × Rounding × Overflow) → Fmt × ℤ
  | [] => (src, c)
  | (d, r, o) :: rest => requantChain d (requant src d r o c) rest

/-- **sequences of conversions** (any length) are the iterated requantisation. -/
theorem chain (src : Fmt) (c : ℤ) (steps : List (Fmt × Rounding × Overflow)) :
    convertChain src c steps = requantChain src c steps := by
  induction steps generalizing src c with
  | nil => rfl
  | cons s rest ih =>
    obtain ⟨d, r, o⟩ := s
    simp only [convertChain, requantChain, convert_eq_requant, ih]

/-- arrays are converted element-wise: the shape (length) is preserved. That the source is not mutated is no theorem:
in the model a list is a value. -/
theorem shape_preserved (src dst : Fmt) (r : Rounding) (o : Overflow) (cs : List ℤ) :
    (cs.map (convertM src dst r o)).length = cs.length := List.length_map _

/-! non-vacuity -/
example : convertM ⟨true, 8, 0⟩ ⟨true, 8, -1⟩ .ceil .saturate 7 = 4 := by decide +kernel   -- D6 witness: 3.5 → 4
example : convertM ⟨true, 8, 0⟩ ⟨true, 8, -1⟩ .trunc .saturate 7 = 3 := by decide +kernel

end Fxp.C10
