import FxpVerif.Spec.C05
import FxpVerif.Props.C01
/-! # C05 — rounding contracts, in value terms -/
namespace Fxp.C05

theorem lsb_pos (f : Fmt) : 0 < lsb f := two_zpow_pos _

theorem val_eq_valueOf (f : Fmt) (c : ℤ) : val f c = valueOf f c := (valueOf_eq f c).symm

/-- the relational contract of `trunc` on the scaled input `x`, multiplied by the LSB `L`, is the value-domain contract. -/
theorem trunc_value (x L : ℚ) (q : ℤ) (hL : 0 < L)
    (hp : 0 ≤ x → (q:ℚ) ≤ x ∧ x < q + 1) (hn : x < 0 → (q:ℚ) - 1 < x ∧ x ≤ q) :
    |(q:ℚ) * L| ≤ |x * L| ∧ |x * L - (q:ℚ) * L| < L ∧ 0 ≤ (q:ℚ) * L * (x * L) := by
  -- unscaled: `q` (the floor of a non-negative `x`, the ceiling of a negative one) lies between 0 and `x`, less than one away
  have key : |(q:ℚ)| ≤ |x| ∧ |x - q| < 1 ∧ 0 ≤ (q:ℚ) * x := by
    rcases le_or_gt 0 x with h0 | h0
    · obtain ⟨a, b⟩ := hp h0
      have hq : (0:ℚ) ≤ q := Int.cast_nonneg (Int.floor_eq_iff.mpr ⟨a, b⟩ ▸ Int.floor_nonneg.mpr h0)
      rw [abs_of_nonneg hq, abs_of_nonneg h0, abs_of_nonneg (sub_nonneg.mpr a)]
      exact ⟨a, by linarith, mul_nonneg hq h0⟩
    · obtain ⟨a, b⟩ := hn h0
      have hq : (q:ℚ) ≤ 0 := Int.cast_nonpos.mpr (Int.ceil_eq_iff.mpr ⟨a, b⟩ ▸ Int.ceil_nonpos.mpr h0.le)
      rw [abs_of_nonpos hq, abs_of_neg h0, abs_of_nonpos (sub_nonpos.mpr b)]
      exact ⟨neg_le_neg b, by linarith, mul_nonneg_of_nonpos_of_nonpos hq h0.le⟩
  rw [abs_mul, abs_mul, ← sub_mul, abs_mul, abs_of_pos hL, mul_mul_mul_comm]
  exact ⟨mul_le_mul_of_nonneg_right key.1 hL.le, mul_lt_of_lt_one_left hL key.2.1, mul_nonneg key.2.2 (mul_pos hL hL).le⟩

theorem contract_of_specRound (f : Fmt) (r : Rounding) (v : ℚ) (q : ℤ)
    (h : C01.SpecRound r (scale v f.nfrac) q) : Contract f r v q := by
  have hl := lsb_pos f
  have htrunc (h : C01.SpecRound .trunc (scale v f.nfrac) q) : Contract f .trunc v q := by
    have key := trunc_value (scale v f.nfrac) (lsb f) q hl h.1 h.2
    rwa [show scale v f.nfrac * lsb f = v from (scale_eq ..).symm.trans (scale_scale_neg ..)] at key
  cases r with
  -- `q` is the floor (ceiling) of the scaled input, and a code is below (above) `v` iff it is below (above) the scaled input
  | floor =>
    simp only [Contract, val_eq_valueOf, valueOf_le_iff]
    exact ⟨h.1, fun c hc => Int.floor_eq_iff.mpr h ▸ Int.le_floor.mpr hc⟩
  | ceil =>
    simp only [Contract, val_eq_valueOf, le_valueOf_iff]
    exact ⟨h.2, fun c hc => Int.ceil_eq_iff.mpr h ▸ Int.ceil_le.mpr hc⟩
  | around =>
    -- both conditions are the scaled ones times the LSB: cancel it
    rw [Contract, val_eq_valueOf, abs_valueOf_sub, ← lsb, ← one_div_mul_eq_div, mul_le_mul_iff_of_pos_right hl,
      mul_left_inj' hl.ne']
    exact h
  | trunc | fix => exact htrunc h

/-- **direction**: what the model stores for a non-overflowing input satisfies the mode's contract. (`hin`, the rounded input
in range, is weaker than `NoOverflow`: `round_inRange_of_noOverflow`.) -/
theorem quantize_contract (f : Fmt) (hw : 0 < f.nword) (r : Rounding) (o : Overflow) (v : ℚ)
    (hin : f.InRange (roundR r (v * (2:ℚ) ^ f.nfrac))) : Contract f r v (quantize f r o v) := by
  rw [← scale_eq] at hin
  rw [quantize_eq_round f hw r o v hin]
  exact contract_of_specRound f r v _ (C01.roundR_spec r _)

theorem noOverflow_iff (f : Fmt) (v : ℚ) : NoOverflow f v ↔ (f.lo:ℚ) ≤ scale v f.nfrac ∧ scale v f.nfrac ≤ f.hi := by
  rw [NoOverflow, val_eq_valueOf, val_eq_valueOf, valueOf_le_iff, le_valueOf_iff]

theorem round_inRange_of_noOverflow (f : Fmt) (r : Rounding) (v : ℚ) (h : NoOverflow f v) :
    f.InRange (roundR r (scale v f.nfrac)) := by
  obtain ⟨a, b⟩ := (noOverflow_iff f v).mp h
  exact ⟨roundR_int r f.lo ▸ roundR_mono r a, roundR_int r f.hi ▸ roundR_mono r b⟩

/-- **error bound**: in every mode the stored value is strictly within one LSB of a non-overflowing input. -/
theorem err_lt_lsb (f : Fmt) (hw : 0 < f.nword) (r : Rounding) (o : Overflow) (v : ℚ) (h : NoOverflow f v) :
    ErrLtLsb f v (quantize f r o v) := by
  rw [ErrLtLsb, val_eq_valueOf, quantize_eq_round f hw r o v (round_inRange_of_noOverflow f r v h)]
  exact valueOf_round_err f r v

/-- **idempotence**: every representable value is stored unchanged, with no flag, in all ten mode pairs. -/
theorem store_idempotent (f : Fmt) (hw : 0 < f.nword) (r : Rounding) (o : Overflow) (c : ℤ) (h : f.InRange c) :
    quantize f r o (valueOf f c) = c ∧ storeFlags f r o (valueOf f c) = ⟨false, false, false⟩ := by
  have hq := quantize_valueOf f hw r o c h
  refine ⟨hq, ?_⟩
  unfold storeFlags
  simp only [hq]
  rw [roundR_scale_valueOf]
  obtain ⟨h1, h2⟩ := h
  simp [not_lt.mpr h1, not_lt.mpr h2]

/-- **monotonicity** under saturate. -/
theorem quantize_sat_monotone (f : Fmt) (r : Rounding) {v₁ v₂ : ℚ} (h : v₁ ≤ v₂) :
    quantize f r .saturate v₁ ≤ quantize f r .saturate v₂ := by
  unfold quantize ovf
  exact sat_mono f (roundR_mono r (scale_mono f.nfrac h))

theorem absR_eq (y : ℚ) : Chk.absR y = |y| := by
  unfold Chk.absR
  by_cases h : y < 0
  · rw [if_pos h, abs_of_neg h]
  · rw [if_neg h, abs_of_nonneg (not_lt.mp h)]

/-- the decidable checker run on the implementation's code is the C01 relational contract … -/
theorem chk_round_iff (r : Rounding) (x : ℚ) (q : ℤ) : Chk.c05round r x q = true ↔ C01.SpecRound r x q := by
  cases r <;> simp only [Chk.c05round, C01.SpecRound, absR_eq, decide_eq_true_eq]

/-- … so an accepted observation of a non-overflowing input satisfies the value-domain contract. -/
theorem chk_sound (f : Fmt) (r : Rounding) (v : ℚ) (c : ℤ) (hno : NoOverflow f v) (h : Chk.c05 f r v c = true) :
    f.InRange c ∧ Contract f r v c ∧ ErrLtLsb f v c := by
  unfold Chk.c05 at h
  rw [if_pos ((noOverflow_iff f v).mp hno)] at h
  simp only [Bool.and_eq_true, decide_eq_true_eq] at h
  obtain ⟨⟨h1, h2⟩, h3⟩ := h
  refine ⟨h1, contract_of_specRound f r v c ((chk_round_iff r _ c).mp h2), ?_⟩
  rw [Chk.c05err, decide_eq_true_eq, absR_eq] at h3
  rw [ErrLtLsb, val_eq_valueOf, abs_valueOf_sub]
  exact mul_lt_of_lt_one_left (lsb_pos f) h3

theorem sortedInt_iff (l : List ℤ) : Chk.sortedInt l = true ↔ l.Pairwise (· ≤ ·) := by
  induction l with
  | nil => simp [Chk.sortedInt]
  | cons a t ih =>
    cases t with
    | nil => simp [Chk.sortedInt]
    | cons b t =>
      simp only [Chk.sortedInt, Bool.and_eq_true, decide_eq_true_eq, ih, List.pairwise_cons]
      constructor
      · rintro ⟨hab, hb, ht⟩
        refine ⟨?_, hb, ht⟩
        intro c hc
        rcases List.mem_cons.mp hc with rfl | hc
        · exact hab
        · exact le_trans hab (hb c hc)
      · rintro ⟨ha, hb, ht⟩
        exact ⟨ha b (List.mem_cons_self), hb, ht⟩

/-! non-vacuity -/
example : NoOverflow ⟨true, 8, 2⟩ (27/8) := by
  unfold NoOverflow val Fmt.lo Fmt.hi; norm_num
example : Contract ⟨true, 8, 2⟩ .floor (27/8) 13 := by
  apply contract_of_specRound; rw [scale_eq]; unfold C01.SpecRound; norm_num

end Fxp.C05
