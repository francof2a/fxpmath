import FxpVerif.Model.Bits
import FxpVerif.Lemmas.Round
import FxpVerif.Lemmas.Overflow
import FxpVerif.Lemmas.Range
/-! # C14 — shifts scale by powers of two -/
namespace Fxp.C14

/-- `>>` on codes is the floor division by `2^n` (sign-filling for negative codes). -/
theorem rshift_keep_floor (c : ℤ) (n : ℕ) : Int.shiftRight c n = c / 2 ^ n ∧
    Int.shiftRight c n = ⌊(c:ℚ) / 2 ^ n⌋ := by
  have h : Int.shiftRight c n = c / 2 ^ n := Int.shiftRight_eq_div_pow c n
  refine ⟨h, h.trans ?_⟩
  simpa only [Nat.cast_pow, Nat.cast_ofNat] using (Rat.floor_intCast_div_natCast c (2 ^ n)).symm

/-! ### trailing zeros -/

theorem tzAux_dvd (fuel : ℕ) (c : ℤ) : (2:ℤ) ^ tzAux fuel c ∣ c := by
  induction fuel generalizing c with
  | zero => exact one_dvd c
  | succ fuel ih =>
    unfold tzAux
    split
    · exact one_dvd c
    · rw [Nat.add_comm, pow_succ']
      exact (mul_dvd_mul_left 2 (ih (c / 2))).trans (Int.mul_ediv_cancel' (Int.dvd_of_emod_eq_zero (not_not.mp ‹_›))).dvd

theorem tz_dvd (c : ℤ) : (2:ℤ) ^ tz c ∣ c := tzAux_dvd _ c

theorem minPow2_fold (l : List ℤ) (a : ℕ) :
    ∃ t, l.foldl (fun acc c => match acc with
        | none => some (tz c)
        | some t => some (min t (tz c))) (some a) = some t ∧ t ≤ a ∧ ∀ c ∈ l, t ≤ tz c := by
  induction l generalizing a with
  | nil => exact ⟨a, rfl, le_rfl, nofun⟩
  | cons x l ih =>
    obtain ⟨t, h, h1, h2⟩ := ih (min a (tz x))
    exact ⟨t, h, h1.trans (min_le_left ..), List.forall_mem_cons.mpr ⟨h1.trans (min_le_right ..), h2⟩⟩

theorem minPow2_cases (cs : List ℤ) :
    (minPow2 cs = none ∧ ∀ c ∈ cs, c = 0) ∨ ∃ t, minPow2 cs = some t ∧ ∀ c ∈ cs, c ≠ 0 → t ≤ tz c := by
  unfold minPow2
  have hmem (c : ℤ) (hc : c ∈ cs) (h0 : c ≠ 0) : c ∈ cs.filter (· ≠ 0) := List.mem_filter.mpr ⟨hc, by simpa using h0⟩
  cases hl : cs.filter (· ≠ 0) with
  | nil => exact .inl ⟨rfl, fun c hc => by_contra fun h0 => by have := hmem c hc h0; rw [hl] at this; cases this⟩
  | cons x l =>
    obtain ⟨t, h, h1, h2⟩ := minPow2_fold l (tz x)
    exact .inr ⟨t, h, fun c hc h0 =>
      (List.forall_mem_cons (p := fun c => t ≤ tz c)).mpr ⟨h1, h2⟩ c (hl ▸ hmem c hc h0)⟩

/-- `min_pow2` never exceeds the trailing zeros of any element: every element is divisible. -/
theorem minPow2_dvd (cs : List ℤ) (t : ℕ) (h : minPow2 cs = some t) : ∀ c ∈ cs, (2:ℤ) ^ t ∣ c := by
  intro c hc
  rcases minPow2_cases cs with ⟨hn, _⟩ | ⟨t', ht', hle⟩
  · rw [hn] at h; cases h
  · obtain rfl := Option.some.inj (ht'.symm.trans h)
    by_cases h0 : c = 0
    · exact h0 ▸ dvd_zero _
    · exact (pow_dvd_pow 2 (hle c hc h0)).trans (tz_dvd c)

/-! ### expand mode -/

theorem value_div {f g : Fmt} {e : ℕ} (hg : g.nfrac = f.nfrac + e) (c : ℤ) (k : ℕ) (hd : (2:ℤ) ^ k ∣ c) :
    valueOf g (c / 2 ^ k) = valueOf f c / 2 ^ (k + e) := by
  -- `c / 2^k` is `c` scaled by `-k`, an integer by `hd`; the exponents add up
  rw [← scale_neg_natCast, valueOf, valueOf, scale_scale, Int.cast_div hd (by positivity), Int.cast_pow, Int.cast_ofNat,
    ← scale_neg_natCast, scale_scale, hg]
  congr 1; push_cast; ring

theorem map_sat_of_inRange (g : Fmt) (φ : ℤ → ℤ) (cs : List ℤ) (h : ∀ c ∈ cs, g.InRange (φ c)) :
    cs.map (fun c => sat g (φ c)) = cs.map φ :=
  List.map_congr_left fun c hc => sat_of_inRange g _ (h c hc)

theorem rshiftExpand_eq (f : Fmt) (cs : List ℤ) (n : ℕ) : ∃ e k : ℕ, k + e = n ∧ (∀ c ∈ cs, (2:ℤ) ^ k ∣ c) ∧
    rshiftExpand f cs n =
      (⟨f.signed, f.nword + e, f.nfrac + e⟩, cs.map fun c => sat ⟨f.signed, f.nword + e, f.nfrac + e⟩ (c / 2 ^ k)) := by
  rcases minPow2_cases cs with ⟨hm, h0⟩ | ⟨t, hm, -⟩
  · exact ⟨0, n, rfl, fun c hc => h0 c hc ▸ dvd_zero _, by simp only [rshiftExpand, hm, (rshift_keep_floor _ _).1]; rfl⟩
  · by_cases htn : t < n
    · exact ⟨n - t, t, by omega, minPow2_dvd cs t hm,
        by simp only [rshiftExpand, hm, htn, if_true, show n - (n - t) = t by omega, (rshift_keep_floor _ _).1]⟩
    · exact ⟨0, n, rfl, fun c hc => (pow_dvd_pow 2 (by omega)).trans (minPow2_dvd cs t hm c hc),
        by simp only [rshiftExpand, hm, htn, if_false, (rshift_keep_floor _ _).1]; rfl⟩

/-- **x >> n in expand mode is exactly x / 2^n**: no bit is lost and the result is in range. -/
theorem rshift_expand_exact (f : Fmt) (hf : f.WF) (cs : List ℤ) (n : ℕ) (hin : ∀ c ∈ cs, f.InRange c) :
    let r := rshiftExpand f cs n
    r.2.length = cs.length ∧
    ∀ i (hi : i < cs.length) (hi' : i < r.2.length),
      r.1.InRange (r.2[i]) ∧ valueOf r.1 (r.2[i]) = valueOf f (cs[i]) / 2 ^ n := by
  obtain ⟨e, k, hke, hdv, hr⟩ := rshiftExpand_eq f cs n
  have hrange : ∀ c ∈ cs, (⟨f.signed, f.nword + e, f.nfrac + e⟩ : Fmt).InRange (c / 2 ^ k) := fun c hc => by
    rw [inRange_iff_fits, mag_add f hf]
    exact ((hin c hc).fits.ediv_pow k).mono id (Nat.le_add_right ..)
  simp only [hr, map_sat_of_inRange _ _ cs hrange, List.length_map, List.getElem_map, true_and]
  exact fun i hi _ => ⟨hrange _ (List.getElem_mem hi), by rw [value_div (f := f) rfl _ k (hdv _ (List.getElem_mem hi)), hke]⟩

theorem fits_bitlen {s : Bool} {c : ℤ} (h0 : c ≠ 0) (hs : s = false → 0 ≤ c) : 1 ≤ bitlen c ∧ Fits s (bitlen c).toNat c := by
  have h : |c| < 2 ^ (Nat.log2 c.natAbs + 1) := by
    rw [Int.abs_eq_natAbs]; exact_mod_cast Nat.lt_log2_self (n := c.natAbs)
  unfold bitlen
  rw [if_neg h0, show ((Nat.log2 c.natAbs : ℤ) + 1).toNat = Nat.log2 c.natAbs + 1 by omega]
  exact ⟨by omega, hs, (abs_lt.mp h).1.le, (abs_lt.mp h).2⟩

theorem le_maxInt (l : List ℤ) (x : ℤ) (hx : x ∈ l) : x ≤ maxInt l := by
  induction l with
  | nil => cases hx
  | cons a t ih =>
    cases t with
    | nil => exact (List.mem_singleton.mp hx).le
    | cons b t =>
      rcases List.mem_cons.mp hx with rfl | h
      exacts [le_max_left .., (ih h).trans (le_max_right ..)]

theorem lshiftExpand_eq (f : Fmt) (cs : List ℤ) (n : ℕ) :
    ∃ w : ℤ, (f.nword : ℤ) ≤ w ∧ maxInt (cs.map bitlen) + bsig f.signed + n ≤ w ∧
      lshiftExpand f cs n = (⟨f.signed, w.toNat, f.nfrac⟩, cs.map fun c => sat ⟨f.signed, w.toNat, f.nfrac⟩ (c * 2 ^ n)) :=
  ⟨_, le_max_left .., le_max_right .., rfl⟩

/-- **x << n in expand mode is exactly x·2^n**, fits the grown word, raises no flag. -/
theorem lshift_expand_exact (f : Fmt) (hf : f.WF) (cs : List ℤ) (n : ℕ) (hin : ∀ c ∈ cs, f.InRange c) :
    let r := lshiftExpand f cs n
    r.2.length = cs.length ∧
    ∀ i (hi : i < cs.length) (hi' : i < r.2.length),
      r.1.InRange (cs[i] * 2 ^ n) ∧ r.2[i] = cs[i] * 2 ^ n ∧ valueOf r.1 (r.2[i]) = valueOf f (cs[i]) * 2 ^ n := by
  obtain ⟨w, -, hw, hr⟩ := lshiftExpand_eq f cs n
  have hrange : ∀ c ∈ cs, (⟨f.signed, w.toNat, f.nfrac⟩ : Fmt).InRange (c * 2 ^ n) := fun c hc => by
    rw [inRange_iff_fits]
    by_cases h0 : c = 0
    · rw [h0, zero_mul]; exact Fits.zero
    -- the code has `bitlen` magnitude bits, and the sign bit only if the format has one
    obtain ⟨h1, hfit⟩ := fits_bitlen h0 (hin c hc).fits.nonneg
    refine (hfit.shl n).mono id ?_
    have hbl := le_maxInt _ _ (List.mem_map_of_mem (f := bitlen) hc)
    rw [bsig_eq_cast] at hw
    show _ ≤ w.toNat - if f.signed then 1 else 0
    omega
  simp only [hr, map_sat_of_inRange _ _ cs hrange, List.length_map, List.getElem_map, true_and]
  refine fun i hi _ => ⟨hrange _ (List.getElem_mem hi), ?_⟩
  rw [valueOf, valueOf, Int.cast_mul, scale_mul_right]; norm_cast

/-! ### trunc / keep mode -/

/-- `x >> n` keeps the format and floors the code. -/
theorem rshift_keep_spec (cs : List ℤ) (n : ℕ) :
    rshiftKeep cs n = cs.map (fun c => c / 2 ^ n) := by
  unfold rshiftKeep
  apply List.map_congr_left
  intro c _
  exact (rshift_keep_floor c n).1

/-- why `x >> n` in keep mode needs no store. -/
theorem rshift_keep_inRange (f : Fmt) (c : ℤ) (n : ℕ) (h : f.InRange c) : f.InRange (c / 2 ^ n) :=
  (inRange_iff_fits f _).mpr (h.fits.ediv_pow n)

/-- `x << n` in keep mode: exact when representable, otherwise clamped (the property also allows wrapping). -/
theorem lshift_keep_spec (f : Fmt) (c : ℤ) (n : ℕ) :
    (f.InRange (c * 2 ^ n) → sat f (c * 2 ^ n) = c * 2 ^ n) ∧
    (¬ f.InRange (c * 2 ^ n) → sat f (c * 2 ^ n) = f.hi ∨ sat f (c * 2 ^ n) = f.lo) := by
  refine ⟨sat_of_inRange f _, ?_⟩
  intro h
  unfold Fmt.InRange at h
  rcases lt_or_ge (c * 2 ^ n) f.lo with hl | hl
  · right; exact sat_below f _ hl
  · left; apply sat_above; omega

/-- shifting by zero is the identity on the stored codes. -/
theorem shift_zero_id (f : Fmt) (cs : List ℤ) (hin : ∀ c ∈ cs, f.InRange c) :
    rshiftKeep cs 0 = cs ∧ lshiftKeep f cs 0 = cs := by
  constructor
  · rw [rshift_keep_spec]; simp
  · simp only [lshiftKeep, pow_zero, mul_one]
    exact (map_sat_of_inRange f id cs hin).trans (List.map_id cs)

/-- the operand is a value: shifting builds a new list and `cs` itself cannot change (the model is pure), so the statement
says only that the result has as many entries; that the operand is unchanged is observed on the implementation. -/
theorem operand_unchanged (f : Fmt) (cs : List ℤ) (n : ℕ) : (lshiftKeep f cs n).length = cs.length := by
  simp [lshiftKeep]

/-! non-vacuity -/
example : rshiftExpand ⟨true, 8, 2⟩ [12, -20] 3 = (⟨true, 9, 3⟩, [3, -5]) := by decide +kernel
example : lshiftExpand ⟨true, 4, 0⟩ [-8] 2 = (⟨true, 7, 0⟩, [-32]) := by decide +kernel
example : rshiftKeep [-7] 1 = [-4] := by decide +kernel
example : lshiftKeep ⟨true, 4, 0⟩ [5] 1 = [7] := by decide +kernel

end Fxp.C14
