import FxpVerif.Model.Arith
import FxpVerif.Props.C01
/-! # C08 — arithmetic into an imposed format equals the exact result quantized into it (once) -/
namespace Fxp.C08

/-- the integer-code kernels deliver the exact rational result scaled to the target fraction length,
for **any** target `F` — negative alignment shifts included (no intermediate rounding). -/
theorem rawKernel_exact (op : BinOp) (hop : op = .add ∨ op = .sub ∨ op = .mul) (F : ℤ) (x y : Fmt) (a b : ℤ) :
    rawKernel op F x y a b = scale (exactOp op (valueOf x a) (valueOf y b)) F := by
  rcases hop with rfl | rfl | rfl
  · show scale _ _ + scale _ _ = scale (_ + _) F
    rw [scale_add, scale_valueOf, scale_valueOf]
  · show scale _ _ - scale _ _ = scale (_ - _) F
    rw [scale_sub, scale_valueOf, scale_valueOf]
  · show scale _ _ = scale (_ * _) F
    rw [valueOf_mul, scale_scale]
    congr 1; omega

/-- a kernel that delivers an integer `z` inside the target's range: `z` is stored as it is, it is the exact result, no flag.
(`hz` comes first so that `t` and `z` are fixed before `hk` is unified: `rawKernel` is never unfolded.) -/
theorem exact_of_kernel (op : BinOp) (hop : op = .add ∨ op = .sub ∨ op = .mul) {t : Fmt} {z : ℤ} (hz : t.InRange z)
    (hw : 0 < t.nword) (r : Rounding) (o : Overflow) (x y : Fmt) (a b : ℤ) (hk : rawKernel op t.nfrac x y a b = z) :
    arithRaw op t r o x y a b = z ∧ valueOf t (arithRaw op t r o x y a b) = exactOp op (valueOf x a) (valueOf y b) ∧
      arithFlags t (roundR r (rawKernel op t.nfrac x y a b)) = (false, false) := by
  have hc : arithRaw op t r o x y a b = z := by
    unfold arithRaw storeRawFloat; rw [hk, roundR_int, ovf_of_inRange o t hw z hz]
  refine ⟨hc, ?_, ?_⟩
  · rw [hc, valueOf, ← hk, rawKernel_exact op hop, scale_scale_neg]
  · rw [hk, roundR_int]; unfold arithFlags
    simp [not_lt.mpr hz.1, not_lt.mpr hz.2]

/-- **C08**: for every target format `t` (whatever policy, `out` or `out_like` produced it) and governing
configuration `(r, o)`, the stored result of `+ - *` is the C01 quantization of the exact result. -/
theorem imposed_single_rounding (op : BinOp) (hop : op = .add ∨ op = .sub ∨ op = .mul)
    (t : Fmt) (r : Rounding) (o : Overflow) (x y : Fmt) (a b : ℤ) :
    arithRaw op t r o x y a b = quantize t r o (exactOp op (valueOf x a) (valueOf y b)) := by
  unfold arithRaw storeRawFloat quantize
  rw [rawKernel_exact op hop]

/-- consequently it satisfies the relational C01 statement for the exact result. -/
theorem imposed_spec (op : BinOp) (hop : op = .add ∨ op = .sub ∨ op = .mul)
    (t : Fmt) (ht : 0 < t.nword) (r : Rounding) (o : Overflow) (x y : Fmt) (a b : ℤ) :
    C01.Spec t r o (exactOp op (valueOf x a) (valueOf y b)) (arithRaw op t r o x y a b) := by
  rw [imposed_single_rounding op hop]; exact C01.quantize_spec t r o _

/-- the integer-code (`raw`) and value (`repr`) methods give identical results. -/
theorem raw_eq_repr (op : BinOp) (hop : op = .add ∨ op = .sub ∨ op = .mul)
    (t : Fmt) (r : Rounding) (o : Overflow) (x y : Fmt) (a b : ℤ) :
    arithRaw op t r o x y a b = arithRepr op t r o x y a b := by
  rw [imposed_single_rounding op hop]; rfl

/-- overflow / underflow flags are those of that one store: raised iff the rounded exact result is
above the maximum / below the minimum code of the target. -/
theorem imposed_flags (op : BinOp) (hop : op = .add ∨ op = .sub ∨ op = .mul)
    (t : Fmt) (r : Rounding) (x y : Fmt) (a b : ℤ) :
    arithFlags t (roundR r (rawKernel op t.nfrac x y a b)) =
      (decide (t.hi < roundR r (scale (exactOp op (valueOf x a) (valueOf y b)) t.nfrac)),
       decide (roundR r (scale (exactOp op (valueOf x a) (valueOf y b)) t.nfrac) < t.lo)) := by
  rw [rawKernel_exact op hop]; rfl

/-- a constant operand is first converted like any stored value (`op_input_size = 'same'`: into the
Fxp operand's format under its configuration); the operation then is an ordinary imposed-format one. -/
theorem const_operand (op : BinOp) (hop : op = .add ∨ op = .sub ∨ op = .mul)
    (t : Fmt) (r : Rounding) (o : Overflow) (x : Fmt) (a : ℤ) (c : ℚ) :
    arithRaw op t r o x x a (quantize x r o c) =
      quantize t r o (exactOp op (valueOf x a) (valueOf x (quantize x r o c))) :=
  imposed_single_rounding op hop t r o x x a _

/-! ### unary operators -/

/-- unary minus is exact whenever its result is representable in the operand's format. -/
theorem neg_exact_if_repr (f : Fmt) (c : ℤ) (h : f.InRange (-c)) :
    negM f c = -c ∧ valueOf f (negM f c) = -valueOf f c := by
  have : negM f c = -c := sat_of_inRange f _ h
  exact ⟨this, by rw [this, valueOf_neg]⟩

/-- unary plus is the identity on stored codes. -/
theorem pos_id (f : Fmt) (c : ℤ) (h : f.InRange c) : posM f c = c := sat_of_inRange f _ h

/-- abs is exact whenever representable. -/
theorem abs_exact_if_repr (f : Fmt) (c : ℤ) (h : f.InRange |c|) :
    absM f c = |c| ∧ valueOf f (absM f c) = |valueOf f c| := by
  have e : (if c < 0 then -c else c) = |c| := by
    by_cases hc : c < 0
    · rw [if_pos hc, abs_of_neg hc]
    · rw [if_neg hc, abs_of_nonneg (not_lt.mp hc)]
  have : absM f c = |c| := by unfold absM; rw [e]; exact sat_of_inRange f _ h
  exact ⟨this, by rw [this]; unfold valueOf; rw [Int.cast_abs, abs_scale]⟩

/-- otherwise (only the most negative code of a signed format) the result is clamped to the maximum. -/
theorem neg_most_negative (f : Fmt) (hs : f.signed = true) (hw : 0 < f.nword) : negM f f.lo = f.hi := by
  apply sat_above
  unfold Fmt.lo Fmt.hi
  rw [if_pos hs, if_pos hs, neg_neg]
  exact sub_one_lt _

/-! non-vacuity -/
example : arithRaw .add ⟨true, 4, 1⟩ .around .saturate ⟨true, 6, 3⟩ ⟨true, 5, 2⟩ 5 3 = 3 := by decide +kernel
example : rawKernel .add 1 ⟨true, 6, 3⟩ ⟨true, 5, 2⟩ 5 3 = 11/4 := by decide +kernel

end Fxp.C08
