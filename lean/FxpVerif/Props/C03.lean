import FxpVerif.Spec.C03
import FxpVerif.Lemmas.Round
import FxpVerif.Lemmas.Overflow
import FxpVerif.Lemmas.BitsInt
/-! # C03 — wrap: the unique in-range code congruent to the input, for arbitrary word length (there is no 64 here) -/
namespace Fxp.C03

/-- the model's `wrap` (mask, then sign-extend — `utils.wrap`) satisfies the Spec … -/
theorem wrap_spec (f : Fmt) (k : ℤ) : Spec f k (wrap f k) :=
  ⟨inRange_wrap f k, wrap_congr f k⟩

/-- `utils.wrap` **as written**: mask with `& (2^n - 1)`, then `np.where(x < 2^(n-1), x, x | -2^n)` when signed — on
two's-complement integers of unbounded size (`Int.land` / `Int.lor`). -/
def wrapBits (f : Fmt) (k : ℤ) : ℤ :=
  let m : ℤ := 2 ^ f.nword
  let x := Int.land k (m - 1)
  if f.signed then (if x < 2 ^ (f.nword - 1) then x else Int.lor x (-m)) else x

/-- the bitwise formulation of the code and the arithmetic formulation of the model are the same function. -/
theorem wrapBits_eq_wrap (f : Fmt) (k : ℤ) : wrapBits f k = wrap f k := by
  unfold wrapBits wrap
  simp only [BitsInt.land_mask]
  have hp : (0:ℤ) < 2 ^ f.nword := by positivity
  have h0 := Int.emod_nonneg k (ne_of_gt hp)
  have h1 := Int.emod_lt_of_pos k hp
  cases f.signed
  · simp
  · simp only [if_true]
    split
    · rfl
    · exact BitsInt.lor_neg_pow f.nword _ h0 h1

/-- … and the Spec has exactly one solution: "the unique in-range integer congruent to the rounded input". -/
theorem wrap_spec_iff (f : Fmt) (hw : 0 < f.nword) (k c : ℤ) : Spec f k c ↔ c = wrap f k :=
  ⟨fun h => wrap_unique f hw k c h.1 h.2, fun h => h ▸ wrap_spec f k⟩

/-- the checker evaluated on the implementation's output is the Spec. -/
theorem chk_iff (f : Fmt) (k c : ℤ) : Chk.c03 f k c = true ↔ Spec f k c := by
  unfold Chk.c03 Spec Fmt.InRange
  rw [Bool.and_eq_true, decide_eq_true_eq, decide_eq_true_eq]

/-- signed: the low `n_word` bits reinterpreted in two's complement = balanced remainder. -/
theorem wrap_signed_bmod (f : Fmt) (hw : 0 < f.nword) (hs : f.signed = true) (k : ℤ) :
    wrap f k = Int.bmod k (2 ^ f.nword) := wrap_eq_bmod f hw hs k

theorem wrap_unsigned_emod (f : Fmt) (hs : f.signed = false) (k : ℤ) : wrap f k = k % 2 ^ f.nword := by
  unfold wrap; simp [hs]

/-- both sides of the range: a value above the range by `j·2^n` or below it comes back to the same code. -/
theorem wrap_periodic (f : Fmt) (k t : ℤ) : wrap f (k + t * 2 ^ f.nword) = wrap f k := wrap_add_mul f k t

/-- a shift of the input by `t·2^(n_word − n_frac)` shifts the scaled input by `t·2^n_word`, which `wrap` does not see;
`h`: the rounding commutes with that integer shift. -/
theorem quantize_wrap_shift_of (f : Fmt) (r : Rounding) (v : ℚ) (t : ℤ)
    (h : roundR r (scale v f.nfrac + ((t * 2 ^ f.nword : ℤ) : ℚ)) = roundR r (scale v f.nfrac) + t * 2 ^ f.nword) :
    quantize f r .wrap (v + t * (2:ℚ) ^ ((f.nword:ℤ) - f.nfrac)) = quantize f r .wrap v := by
  have hs : scale ((t:ℚ) * (2:ℚ) ^ ((f.nword:ℤ) - f.nfrac)) f.nfrac = ((t * 2 ^ f.nword : ℤ) : ℚ) := by
    rw [scale_eq, mul_assoc, ← zpow_add₀ (by norm_num : (2:ℚ) ≠ 0), sub_add_cancel, zpow_natCast]
    push_cast; rfl
  unfold quantize ovf
  rw [scale_add, hs, h]
  exact wrap_add_mul f _ t

/-- **shift invariance** of the whole store pipeline under wrap: adding `t·2^(n_word-n_frac)` to the input
does not change the stored code — for floor, ceil and around unconditionally … -/
theorem quantize_wrap_shift (f : Fmt) (hw : 0 < f.nword) (r : Rounding) (v : ℚ) (t : ℤ)
    (hr : r = .floor ∨ r = .ceil ∨ r = .around) :
    quantize f r .wrap (v + t * (2:ℚ) ^ ((f.nword:ℤ) - f.nfrac)) = quantize f r .wrap v := by
  refine quantize_wrap_shift_of f r v t (roundR_add_int r _ _ (fun _ => ?_) fun h => ?_)
  · -- `around` needs an even shift: `t·2^n_word` is one because `n_word ≥ 1`
    rw [two_pow_pred _ hw, ← mul_assoc, mul_comm t 2, mul_assoc]
    exact Int.mul_emod_right 2 _
  · -- none of the three rules is `trunc` or `fix`
    rcases hr with rfl | rfl | rfl <;> rcases h with h | h <;> cases h

/-- … and for trunc/fix whenever the shift does not move the scaled input across zero. -/
theorem quantize_wrap_shift_trunc (f : Fmt) (r : Rounding) (v : ℚ) (t : ℤ) (hr : r = .trunc ∨ r = .fix)
    (hs : v * (2:ℚ) ^ f.nfrac < 0 ↔ v * (2:ℚ) ^ f.nfrac + ((t * 2 ^ f.nword : ℤ) : ℚ) < 0) :
    quantize f r .wrap (v + t * (2:ℚ) ^ ((f.nword:ℤ) - f.nfrac)) = quantize f r .wrap v := by
  refine quantize_wrap_shift_of f r v t (roundR_add_int r _ _ (fun h => ?_) fun _ => scale_eq v _ ▸ hs)
  rcases hr with rfl | rfl <;> cases h

/-- on-grid inputs (the scaled value is an integer) are shift-invariant in every mode. -/
theorem quantize_wrap_shift_grid (f : Fmt) (r : Rounding) (k t : ℤ) :
    quantize f r .wrap (valueOf f k + t * (2:ℚ) ^ ((f.nword:ℤ) - f.nfrac)) = quantize f r .wrap (valueOf f k) := by
  refine quantize_wrap_shift_of f r _ t ?_
  rw [scale_valueOf_self, ← Int.cast_add, roundR_int, roundR_int]

/-- the literal "any shift, any mode" reading is false of C01's own arithmetic: trunc of -1/2 is 0 but
trunc of -1/2 + 8 is 7 (3-bit unsigned, n_frac = 0).  The code follows C01 here. -/
theorem shift_trunc_counterexample :
    quantize ⟨false, 3, 0⟩ .trunc .wrap (-1/2 + 1 * (2:ℚ) ^ ((3:ℤ) - 0)) ≠ quantize ⟨false, 3, 0⟩ .trunc .wrap (-1/2) := by
  decide +kernel

/-- **register behaviour**: storing a sum / difference / product with wrap equals the n_word-bit register
operation on the wrapped operands. -/
theorem wrap_add (f : Fmt) (a b : ℤ) : wrap f (a + b) = wrap f (wrap f a + wrap f b) :=
  wrap_of_emod_eq f (by rw [Int.add_emod, ← wrap_mod f a, ← wrap_mod f b, ← Int.add_emod])
theorem wrap_sub (f : Fmt) (a b : ℤ) : wrap f (a - b) = wrap f (wrap f a - wrap f b) :=
  wrap_of_emod_eq f (by rw [Int.sub_emod, ← wrap_mod f a, ← wrap_mod f b, ← Int.sub_emod])
theorem wrap_mul (f : Fmt) (a b : ℤ) : wrap f (a * b) = wrap f (wrap f a * wrap f b) :=
  wrap_of_emod_eq f (by rw [Int.mul_emod, ← wrap_mod f a, ← wrap_mod f b, ← Int.mul_emod])

/-! ### a register with fewer fraction bits than the exact result (the fixed-point multiply `s32/16 · s32/16 → s32/16`)

The exact result of `+ - *` is an integer code `p` with `fe` fraction bits; the register has `k` fewer.  What is stored is
`wrap (ROUND (p / 2^k))` — for every rounding rule the rounded value is an integer function of `p` alone, so no float is
involved in the specification — and under `floor` (the arithmetic right shift of hardware) it is exactly the bit field
`k .. k+n_word-1` of the two's-complement image of `p`. -/

/-- floor of `p / 2^k` is the arithmetic right shift `p >>> k` (`Int` floor division). -/
theorem floor_drop (p : ℤ) (k : ℕ) : ⌊(p:ℚ) / ((2 ^ k : ℕ) : ℚ)⌋ = p / 2 ^ k := by
  rw [Rat.floor_intCast_div_natCast, Nat.cast_pow, Nat.cast_ofNat]

/-- **what the register holds, every rounding rule**: the store of the exact result is `wrap` of the integer obtained by
rounding the rational `p / 2^k` — in particular it depends on all the bits of `p` (no 53-bit mantissa in between). -/
theorem register_drop (reg : Fmt) (r : Rounding) (p : ℤ) (k : ℕ) :
    quantize reg r .wrap (scale (p:ℚ) (-(reg.nfrac + k))) = wrap reg (roundR r ((p:ℚ) / ((2 ^ k : ℕ) : ℚ))) := by
  -- the exact result `p·2^-(fr+k)` scaled to the register's `fr` fraction bits is the rational `p / 2^k`
  unfold quantize ovf
  rw [scale_scale, neg_add_rev, neg_add_cancel_right, scale_neg_natCast, Nat.cast_pow, Nat.cast_ofNat]

/-- under `floor`: the register holds `p >>> k` reduced to `n_word` bits. -/
theorem register_drop_floor (reg : Fmt) (p : ℤ) (k : ℕ) :
    quantize reg .floor .wrap (scale (p:ℚ) (-(reg.nfrac + k))) = wrap reg (p / 2 ^ k) := by
  rw [register_drop, roundR_floor, floor_drop]

/-- bits `k .. k+n-1` of `p`: shifting then masking is masking the `n+k` low bits then shifting. -/
theorem shift_mask (p : ℤ) (k n : ℕ) : (p / 2 ^ k) % 2 ^ n = (p % 2 ^ (n + k)) / 2 ^ k := by
  -- both sides are `p / 2^k − 2^n · (p / 2^(n+k))`
  rw [pow_add, mul_comm ((2:ℤ) ^ n), Int.emod_def, Int.emod_def, Int.ediv_ediv_of_nonneg (by positivity),
    show p - 2 ^ k * 2 ^ n * (p / (2 ^ k * 2 ^ n)) = p + 2 ^ k * (-(2 ^ n * (p / (2 ^ k * 2 ^ n)))) by ring,
    Int.add_mul_ediv_left _ _ (by positivity)]
  ring

/-- unsigned register under floor: exactly the bit field `k .. k+n_word-1` of `p`. -/
theorem register_drop_floor_unsigned (reg : Fmt) (hs : reg.signed = false) (p : ℤ) (k : ℕ) :
    quantize reg .floor .wrap (scale (p:ℚ) (-(reg.nfrac + k))) = (p % 2 ^ (reg.nword + k)) / 2 ^ k := by
  rw [register_drop_floor, wrap_unsigned_emod reg hs, shift_mask]

/-- signed register under floor: the same bit field, reinterpreted in two's complement — bits of `p` above `k + n_word`
never matter (`p` may be replaced by its low `n_word + k` bits). -/
theorem register_drop_floor_low_bits (reg : Fmt) (p : ℤ) (k : ℕ) :
    quantize reg .floor .wrap (scale (p:ℚ) (-(reg.nfrac + k))) = wrap reg ((p % 2 ^ (reg.nword + k)) / 2 ^ k) := by
  rw [register_drop_floor, ← wrap_emod, shift_mask]

/-! integer-only forms of `ROUND(p / 2^k)` for the other rounding rules (what a hardware rounder computes from the bits of `p`) -/

theorem ceil_drop (p : ℤ) (k : ℕ) : ⌈(p:ℚ) / ((2 ^ k : ℕ) : ℚ)⌉ = -((-p) / 2 ^ k) := by
  rw [← floor_drop (-p) k, Int.cast_neg, neg_div, Int.floor_neg, neg_neg]

theorem register_drop_ceil (reg : Fmt) (p : ℤ) (k : ℕ) :
    quantize reg .ceil .wrap (scale (p:ℚ) (-(reg.nfrac + k))) = wrap reg (-((-p) / 2 ^ k)) := by
  rw [register_drop, roundR_ceil, ceil_drop]

/-- trunc / fix: toward zero — the floor shift for `p ≥ 0`, the ceil shift for `p < 0` (`Int.tdiv`). -/
theorem trunc_drop (p : ℤ) (k : ℕ) :
    roundR .trunc ((p:ℚ) / ((2 ^ k : ℕ) : ℚ)) = if p < 0 then -((-p) / 2 ^ k) else p / 2 ^ k := by
  have hiff : (p:ℚ) / ((2 ^ k : ℕ) : ℚ) < 0 ↔ p < 0 := by
    rw [div_lt_iff₀ (by positivity), zero_mul, Int.cast_lt_zero]
  rw [roundR_trunc, ceil_drop, floor_drop]
  exact if_congr hiff rfl rfl

theorem register_drop_trunc (reg : Fmt) (p : ℤ) (k : ℕ) :
    quantize reg .trunc .wrap (scale (p:ℚ) (-(reg.nfrac + k))) = wrap reg (if p < 0 then -((-p) / 2 ^ k) else p / 2 ^ k) := by
  rw [register_drop, trunc_drop]

/-- around (nearest, ties to the even code) from the quotient `q = p >>> k` and the dropped bits `r = p mod 2^k`:
one is added when the dropped bits exceed half an LSB, or equal it and `q` is odd. -/
theorem around_drop (p : ℤ) (k : ℕ) (hk : 1 ≤ k) :
    roundR .around ((p:ℚ) / ((2 ^ k : ℕ) : ℚ)) =
      p / 2 ^ k + (if 2 ^ (k - 1) < p % 2 ^ k ∨ (p % 2 ^ k = 2 ^ (k - 1) ∧ (p / 2 ^ k) % 2 = 1) then 1 else 0) := by
  have hH : (0:ℚ) < ((2 ^ (k - 1) : ℤ) : ℚ) := by positivity
  -- the fractional part is `r / 2^k` for the dropped bits `r`: it compares with 1/2 as `r` does with `2^(k-1)`
  have hd : (p:ℚ) / ((2 ^ k : ℕ) : ℚ) - ⌊(p:ℚ) / ((2 ^ k : ℕ) : ℚ)⌋ = ((p % 2 ^ k : ℤ) : ℚ) / ((2 ^ (k - 1) : ℤ) : ℚ) / 2 := by
    rw [Int.self_sub_floor, Int.fract_div_intCast_eq_div_intCast_mod, div_div]
    push_cast
    rw [← pow_succ, Nat.sub_add_cancel hk]
  rw [← floor_drop p k]
  generalize (p:ℚ) / ((2 ^ k : ℕ) : ℚ) = x at hd ⊢
  generalize p % 2 ^ k = r at hd ⊢
  have hlt : x - (⌊x⌋:ℚ) < 1/2 ↔ r < 2 ^ (k - 1) := by rw [hd, div_lt_div_iff_of_pos_right two_pos, div_lt_one hH, Int.cast_lt]
  have hgt : 1/2 < x - (⌊x⌋:ℚ) ↔ 2 ^ (k - 1) < r := by rw [hd, div_lt_div_iff_of_pos_right two_pos, one_lt_div hH, Int.cast_lt]
  -- so both sides are the same case distinction on integers
  show roundHalfEven x = _
  simp only [roundHalfEven_eq, hlt, hgt]
  omega

theorem register_drop_around (reg : Fmt) (p : ℤ) (k : ℕ) (hk : 1 ≤ k) :
    quantize reg .around .wrap (scale (p:ℚ) (-(reg.nfrac + k))) =
      wrap reg (p / 2 ^ k + (if 2 ^ (k - 1) < p % 2 ^ k ∨ (p % 2 ^ k = 2 ^ (k - 1) ∧ (p / 2 ^ k) % 2 = 1) then 1 else 0)) := by
  rw [register_drop, around_drop p k hk]

/-- the canonical multiply `s32/16 · s32/16 → s32/16` (wrap, floor): codes `a`, `b` give `((a·b) >>> 16)` in 32 bits. -/
theorem q16_16_multiply (a b : ℤ) :
    quantize ⟨true, 32, 16⟩ .floor .wrap (valueOf ⟨true, 32, 16⟩ a * valueOf ⟨true, 32, 16⟩ b) = wrap ⟨true, 32, 16⟩ ((a * b) / 2 ^ 16) := by
  have hv : valueOf ⟨true, 32, 16⟩ a * valueOf ⟨true, 32, 16⟩ b = scale ((a * b : ℤ) : ℚ) (-((16:ℤ) + (16:ℕ))) := by
    rw [valueOf_mul]; rfl
  rw [hv]
  exact register_drop_floor ⟨true, 32, 16⟩ (a * b) 16

/-- in-range codes are fixed points. -/
theorem wrap_id (f : Fmt) (hw : 0 < f.nword) (k : ℤ) (h : f.InRange k) : wrap f k = k := wrap_of_inRange f hw k h

/-! non-vacuity -/
example : wrap ⟨true, 8, 0⟩ 200 = -56 := by decide +kernel
example : wrap ⟨false, 8, 0⟩ (-1) = 255 := by decide +kernel
example : wrap ⟨true, 128, 0⟩ (2^127) = -2^127 := by decide +kernel
example : Spec ⟨true, 8, 0⟩ 200 (-56) := by unfold Spec Fmt.InRange Fmt.lo Fmt.hi; decide +kernel
/-- the witness of D41: `2147483647 · 1073741825 >>> 16` in 32 bits is 16383 (a float product gives 16384). -/
example : wrap ⟨true, 32, 16⟩ ((2147483647 * 1073741825) / 2 ^ 16) = 16383 := by decide +kernel

end Fxp.C03
