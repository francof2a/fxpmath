import FxpVerif.Lemmas.Range
/-! # C09 — division family -/
namespace Fxp.C09
open Fmt

/-- exact quotient of the stored values, scaled to the result's fraction length. -/
def Q (t x y : Fmt) (a b : ℤ) : ℚ := scale (valueOf x a / valueOf y b) t.nfrac

theorem scale_div_valueOf (x y : Fmt) (a b : ℤ) (e : ℤ) :
    scale (valueOf x a / valueOf y b) e = scale (a:ℚ) (e - x.nfrac + y.nfrac) / b := by
  -- the dividend is aligned by `e`; numerator and denominator are then both scaled by `n_frac y`, which makes the divisor's
  -- value its code
  rw [div_eq_mul_inv, scale_mul_right, ← div_eq_mul_inv, scale_valueOf, ← scale_div_scale _ (valueOf y b) y.nfrac,
    scale_scale, scale_valueOf_self]

/-- the optimal `truediv` format `(s, x.n_int + y.n_frac + s, x.n_frac + y.n_int)` always exists; its
magnitude bits are `s + mag x + mag y`. -/
theorem resultFmt_truediv (x y : Fmt) (hx : x.WF) (hy : y.WF) :
    resultFmt .optimal .truediv x y =
      some (.ofMag (x.signed || y.signed) (x.mag + (if x.signed || y.signed then 1 else 0) + y.mag) (x.nfrac + (y.mag : ℤ) - y.nfrac)) := by
  unfold resultFmt sizing optimalSize
  rw [nint_eq_mag x hx, nint_eq_mag y hy, show x.nfrac + (y.mag : ℤ) - y.nfrac = x.nfrac + ((y.mag : ℤ) - y.nfrac) by ring]
  apply mkFmt_of_mag
  rw [bsig_eq_cast]; push_cast; ring

/-- the pre-scaled integer quotient of the raw method is the floor of the exact scaled quotient. -/
theorem truediv_kernel (t x y : Fmt) (hy : y.WF) (htf : t.nfrac = x.nfrac + (y.mag : ℤ) - y.nfrac)
    (a b : ℤ) (hb : b ≠ 0) :
    rawKernel .truediv t.nfrac x y a b = ((⌊Q t x y a b⌋ : ℤ) : ℚ) := by
  unfold Q; rw [scale_div_valueOf]; rfl

/-- **floor bounds**: `q·LSB ≤ x/y < (q+1)·LSB` in scaled units. -/
theorem truediv_floor_bounds (t x y : Fmt) (a b : ℤ) :
    ((⌊Q t x y a b⌋ : ℤ) : ℚ) ≤ Q t x y a b ∧ Q t x y a b < (⌊Q t x y a b⌋ : ℤ) + 1 :=
  ⟨Int.floor_le _, Int.lt_floor_add_one _⟩

/-- **exact whenever representable**: if the exact quotient is a multiple of the result LSB, it is stored. -/
theorem truediv_exact_if_repr (t x y : Fmt) (a b k : ℤ) (h : Q t x y a b = k) : ⌊Q t x y a b⌋ = k := by
  rw [h]; exact Int.floor_intCast k

/-- **error strictly below one LSB**, in value terms. -/
theorem truediv_err_lt_lsb (t x y : Fmt) (a b : ℤ) :
    |valueOf t ⌊Q t x y a b⌋ - valueOf x a / valueOf y b| < (2:ℚ) ^ (-t.nfrac) :=
  valueOf_round_err t .floor _

/-- **the optimal format never overflows**, including most-negative dividend over ±one LSB. -/
theorem truediv_fits (x y : Fmt) (hx : x.WF) (hy : y.WF) (a b : ℤ) (ha : x.InRange a) (hb : y.InRange b)
    (hb0 : b ≠ 0) (t : Fmt) (ht : resultFmt .optimal .truediv x y = some t) :
    t.InRange ⌊Q t x y a b⌋ := by
  obtain rfl := Option.some.inj ((resultFmt_truediv x y hx hy).symm.trans ht)
  rw [inRange_ofMag, Q, scale_div_valueOf]
  -- the dividend's code is aligned by `n_frac t − n_frac x + n_frac y = mag y` bits
  exact ha.fits.floor_div hb.fits hb0 _ (by rw [bsig_eq_cast]; push_cast [ofMag]; omega)

/-! ### floor-division and modulo -/

/-- `x // y` computes `floor(x/y)` on the stored values (result fraction length `F`, raw method). -/
theorem floordiv_eq_floor (F : ℤ) (x y : Fmt) (a b : ℤ) (hb : b ≠ 0) :
    rawKernel .floordiv F x y a b = scale (((⌊valueOf x a / valueOf y b⌋ : ℤ)) : ℚ) F := by
  unfold rawKernel fdivR
  rw [← scale_valueOf x, ← scale_valueOf y, scale_div_scale]; rfl

theorem floordiv_raw_eq_repr (t : Fmt) (r : Rounding) (o : Overflow) (x y : Fmt) (a b : ℤ) (hb : b ≠ 0) :
    arithRaw .floordiv t r o x y a b = arithRepr .floordiv t r o x y a b := by
  unfold arithRaw arithRepr storeRawFloat storeFloat
  rw [floordiv_eq_floor t.nfrac x y a b hb]; rfl

/-- the optimal `floordiv` format `(s, max (x.n_int + y.n_frac + s) 0, 0)`. -/
theorem resultFmt_floordiv (x y : Fmt) (hx : x.WF) :
    resultFmt .optimal .floordiv x y = some (.ofMag (x.signed || y.signed)
      ((x.mag : ℤ) - x.nfrac + y.nfrac + bsig (x.signed || y.signed)).toNat 0) := by
  unfold resultFmt sizing optimalSize
  rw [nint_eq_mag x hx]
  exact mkFmt_of_mag _ _ _ _ (by rw [add_zero, Int.toNat_eq_max])

/-- the optimal `floordiv` format exists for **every** pair of operand formats
(fraction lengths beyond the word, or negative ones, included — before D43 the integer length could come out negative and no
format existed). -/
theorem floordiv_fmt (x y : Fmt) (hx : x.WF) :
    ∃ t, resultFmt .optimal .floordiv x y = some t ∧ t.signed = (x.signed || y.signed) ∧ t.nfrac = 0 ∧ t.WF ∧
      (t.mag : ℤ) = max ((x.mag : ℤ) - x.nfrac + y.nfrac + bsig (x.signed || y.signed)) 0 :=
  ⟨_, resultFmt_floordiv x y hx, rfl, rfl, ofMag_WF _ _ _, by rw [ofMag_mag, Int.toNat_eq_max]⟩

/-- **`x // y` never overflows its optimal format**, for every pair of operand formats (any fraction lengths), every pair of
in-range codes and every non-zero divisor: `floor(x/y)` is a code of the format `floordiv` builds. With `floordiv_eq_floor`
this is "x//y equals floor(x/y) exactly". -/
theorem floordiv_fits (x y : Fmt) (hx : x.WF) (hy : y.WF) (a b : ℤ) (ha : x.InRange a) (hb : y.InRange b)
    (hb0 : b ≠ 0) (t : Fmt) (ht : resultFmt .optimal .floordiv x y = some t) :
    t.InRange ⌊valueOf x a / valueOf y b⌋ := by
  obtain rfl := Option.some.inj ((resultFmt_floordiv x y hx).symm.trans ht)
  rw [inRange_ofMag, ← scale_zero (valueOf x a / valueOf y b), scale_div_valueOf]
  exact ha.fits.floor_div hb.fits hb0 _ (by omega)

/-- `x % y = x - y·floor(x/y)` exactly (raw method, any result fraction length). -/
theorem mod_eq (F : ℤ) (x y : Fmt) (a b : ℤ) (hb : b ≠ 0) :
    rawKernel .mod F x y a b = scale (exactOp .mod (valueOf x a) (valueOf y b)) F := by
  unfold rawKernel fdivR exactOp
  simp only [← scale_valueOf x, ← scale_valueOf y, scale_div_scale, scale_sub, scale_mul_right]

theorem mod_raw_eq_repr (t : Fmt) (r : Rounding) (o : Overflow) (x y : Fmt) (a b : ℤ) (hb : b ≠ 0) :
    arithRaw .mod t r o x y a b = arithRepr .mod t r o x y a b := by
  unfold arithRaw arithRepr storeRawFloat storeFloat
  rw [mod_eq t.nfrac x y a b hb]

theorem mod_eq_mul_fract (vx vy : ℚ) (hy : vy ≠ 0) : exactOp .mod vx vy = vy * Int.fract (vx / vy) := by
  show vx - vy * ((vx / vy).floor : ℤ) = _
  rw [floor_eq, Int.fract, mul_sub, mul_div_cancel₀ _ hy]

/-- the remainder takes the divisor's sign and is smaller in magnitude. -/
theorem mod_sign_of_divisor (vx vy : ℚ) (hy : vy ≠ 0) :
    (0 < vy → 0 ≤ exactOp .mod vx vy ∧ exactOp .mod vx vy < vy) ∧
    (vy < 0 → vy < exactOp .mod vx vy ∧ exactOp .mod vx vy ≤ 0) := by
  have h0 := Int.fract_nonneg (vx / vy)
  have h1 := Int.fract_lt_one (vx / vy)
  rw [mod_eq_mul_fract vx vy hy]
  exact ⟨fun hp => ⟨mul_nonneg hp.le h0, mul_lt_of_lt_one_right hp h1⟩,
    fun hn => ⟨lt_mul_of_lt_one_right hn h1, mul_nonpos_of_nonpos_of_nonneg hn.le h0⟩⟩

/-- `(x // y)·y + x % y = x`. -/
theorem divmod_identity (vx vy : ℚ) : exactOp .floordiv vx vy * vy + exactOp .mod vx vy = vx := by
  unfold exactOp; ring

/-! non-vacuity -/
example : resultFmt .optimal .truediv ⟨true, 4, 2⟩ ⟨true, 3, 1⟩ = some ⟨true, 7, 3⟩ := by decide +kernel
example : arithRaw .truediv ⟨true, 7, 3⟩ .trunc .saturate ⟨true, 4, 2⟩ ⟨true, 3, 1⟩ (-8) (-1) = 32 := by decide +kernel
example : arithRaw .truediv ⟨true, 7, 3⟩ .trunc .saturate ⟨true, 4, 2⟩ ⟨true, 3, 1⟩ 7 3 = 9 := by decide +kernel

end Fxp.C09
