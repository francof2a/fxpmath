import FxpVerif.Model.Chk
import FxpVerif.Model.Reduce
import FxpVerif.Model.Convert
import FxpVerif.Props.C14
import FxpVerif.Props.C12
import FxpVerif.Model.Resize
/-! # C02 — every produced object is well-formed

A small program model (`PObj`, `POp`, `stepP`, `runP`) with `wf_step` / `wf_reachable`, the saturation side, the two checkers; and from
`resize_nint_consistent` on the second half of the property: the size attributes stay consistent under `resize`. -/
namespace Fxp.C02
open Fmt

structure PObj where
  fmt : Fmt
  codes : List ℤ

/-- well-formed: a constructible format and every code inside its range. -/
def PObj.WF (x : PObj) : Prop := 0 < x.fmt.nword ∧ ∀ c ∈ x.codes, x.fmt.InRange c

/-- the operation set of the model. Targets of arithmetic are arbitrary formats, which covers the four sizing
policies, `out`, `out_like` and constants alike. -/
inductive POp
  | store (f : Fmt) (r : Rounding) (o : Overflow) (vs : List ℚ)
  | arith (op : BinOp) (i j : ℕ) (t : Fmt) (r : Rounding) (o : Overflow)
  | conv (i : ℕ) (g : Fmt) (r : Rounding) (o : Overflow)
  | neg (i : ℕ)
  | absv (i : ℕ)
  | inv (i : ℕ) (o : Overflow)
  | bitw (b : BitOp) (i : ℕ) (m : ℤ) (o : Overflow)
  | rshiftKeep (i n : ℕ)
  | lshiftKeep (i n : ℕ)
  | rshiftExp (i n : ℕ)
  | lshiftExp (i n : ℕ)
  | index (i k len : ℕ)
  | sum (i : ℕ) (o : Overflow)

/-- result of one operation on a pool of objects (`none`: the operation raises / the operand does not exist). -/
def stepP (pool : List PObj) : POp → Option PObj
  | .store f r o vs => if 0 < f.nword then some ⟨f, vs.map (quantize f r o)⟩ else none
  | .arith op i j t r o =>
    match pool[i]?, pool[j]? with
    | some x, some y =>
      if 0 < t.nword then some ⟨t, List.zipWith (arithRaw op t r o x.fmt y.fmt) x.codes y.codes⟩ else none
    | _, _ => none
  | .conv i g r o =>
    match pool[i]? with
    | some x => if 0 < g.nword then some ⟨g, x.codes.map (convertM x.fmt g r o)⟩ else none
    | none => none
  | .neg i => (pool[i]?).map (fun x => ⟨x.fmt, x.codes.map (negM x.fmt)⟩)
  | .absv i => (pool[i]?).map (fun x => ⟨x.fmt, x.codes.map (absM x.fmt)⟩)
  | .inv i o => (pool[i]?).map (fun x => ⟨x.fmt, x.codes.map (invertM x.fmt o)⟩)
  | .bitw b i m o => (pool[i]?).map (fun x => ⟨x.fmt, x.codes.map (fun c => bitwiseM b x.fmt o c m)⟩)
  | .rshiftKeep i n => (pool[i]?).map (fun x => ⟨x.fmt, rshiftKeep x.codes n⟩)
  | .lshiftKeep i n => (pool[i]?).map (fun x => ⟨x.fmt, lshiftKeep x.fmt x.codes n⟩)
  | .rshiftExp i n => (pool[i]?).map (fun x => let r := rshiftExpand x.fmt x.codes n; ⟨r.1, r.2⟩)
  | .lshiftExp i n => (pool[i]?).map (fun x => let r := lshiftExpand x.fmt x.codes n; ⟨r.1, r.2⟩)
  | .index i k len => (pool[i]?).map (fun x => ⟨x.fmt, (x.codes.drop k).take len⟩)
  | .sum i o => (pool[i]?).map (fun x => ⟨sumFmt x.fmt x.codes.length, [ovf o (sumFmt x.fmt x.codes.length) (sumL x.codes)]⟩)

/-- run a program: every produced object joins the pool. -/
def runP (pool : List PObj) : List POp → List PObj
  | [] => pool
  | op :: rest =>
    match stepP pool op with
    | some x => runP (pool ++ [x]) rest
    | none => runP pool rest

theorem wf_map {α} (f : Fmt) (hw : 0 < f.nword) (g : α → ℤ) (hg : ∀ a, f.InRange (g a)) (l : List α) : PObj.WF ⟨f, l.map g⟩ :=
  ⟨hw, fun _ hc => by obtain ⟨a, _, rfl⟩ := List.mem_map.mp hc; exact hg a⟩

/-- **one step**: from well-formed operands every operation of the model produces a well-formed object. -/
theorem wf_step (pool : List PObj) (hp : ∀ x ∈ pool, x.WF) (hwf : ∀ x ∈ pool, x.fmt.WF) (op : POp) (z : PObj)
    (hz : stepP pool op = some z) : z.WF := by
  have unary {i : ℕ} {g : PObj → PObj} (hz : (pool[i]?).map g = some z) (hg : ∀ x : PObj, x.WF → (g x).WF) : z.WF := by
    obtain ⟨x, hx, rfl⟩ := Option.map_eq_some_iff.mp hz
    exact hg x (hp x (List.mem_of_getElem? hx))
  cases op with
  | store f r o vs =>
    obtain ⟨hw, ⟨⟩⟩ := Option.ite_none_right_eq_some.mp hz      -- `⟨⟩` and not `rfl`: the equation is `some _ = some z`
    exact wf_map f hw _ (fun _ => ovf_inRange o f _) vs
  | arith op i j t r o =>
    simp only [stepP] at hz
    split at hz
    · obtain ⟨hw, ⟨⟩⟩ := Option.ite_none_right_eq_some.mp hz
      exact ⟨hw, forall_mem_zipWith fun _ _ _ _ => ovf_inRange o t _⟩
    · cases hz
  | conv i g r o =>
    simp only [stepP] at hz
    split at hz
    · obtain ⟨hw, ⟨⟩⟩ := Option.ite_none_right_eq_some.mp hz
      exact wf_map g hw _ (fun _ => ovf_inRange o g _) _
    · cases hz
  | neg i | absv i | lshiftKeep i n => exact unary hz fun x hx => wf_map _ hx.1 _ (fun _ => sat_inRange _ _) _
  | inv i o | bitw b i m o => exact unary hz fun x hx => wf_map _ hx.1 _ (fun _ => ovf_inRange o _ _) _
  | rshiftKeep i n =>
    refine unary hz fun x ⟨hw, hr⟩ => ⟨hw, fun c hc => ?_⟩
    rw [C14.rshift_keep_spec] at hc
    obtain ⟨v, hv, rfl⟩ := List.mem_map.mp hc
    exact C14.rshift_keep_inRange x.fmt v n (hr v hv)
  | rshiftExp i n => exact unary hz fun x hx => wf_map _ (Nat.add_pos_left hx.1 _) _ (fun _ => sat_inRange _ _) _
  | lshiftExp i n =>
    -- the grown word is a `toNat`, so (unlike for `rshiftExp`) its positivity is not seen by unfolding
    refine unary hz fun x hx => ?_
    obtain ⟨w, hw, -, hr⟩ := C14.lshiftExpand_eq x.fmt x.codes n
    rw [hr]
    exact wf_map _ (by have := hx.1; show 0 < w.toNat; omega) _ (fun _ => sat_inRange _ _) _
  | index i k len =>
    exact unary hz fun x ⟨hw, hr⟩ => ⟨hw, fun c hc => hr c (List.mem_of_mem_drop (List.mem_of_mem_take hc))⟩
  | sum i o =>
    refine unary hz fun x hx => ?_
    have hw : 0 < (sumFmt x.fmt x.codes.length).nword := Nat.add_pos_right _ hx.1
    exact wf_map _ hw _ (fun _ => ovf_inRange o _ _) [sumL x.codes]

theorem wf_run (prog : List POp) (pool : List PObj) (hp : ∀ x ∈ pool, x.WF) : ∀ x ∈ runP pool prog, x.WF := by
  induction prog generalizing pool with
  | nil => exact hp
  | cons op rest ih =>
    unfold runP
    split
    · rename_i z hz
      refine ih _ fun x hx => ?_
      rcases List.mem_append.mp hx with h | h
      · exact hp x h
      · obtain rfl := List.mem_singleton.mp h
        exact wf_step pool hp (fun y hy _ => (hp y hy).1) op _ hz
    · exact ih pool hp

/-- **every reachable object is well-formed**: induction over programs of any length. -/
theorem wf_reachable (prog : List POp) : ∀ x ∈ runP [] prog, x.WF := wf_run prog [] (List.forall_mem_nil _)

/-- **saturation picks the input's own side**, for inputs of any magnitude and every rounding mode. -/
theorem sat_own_side (f : Fmt) (r : Rounding) (v : ℚ) :
    (valueOf f f.hi < v → quantize f r .saturate v = f.hi) ∧ (v < valueOf f f.lo → quantize f r .saturate v = f.lo) := by
  constructor <;> intro h
  · exact sat_of_hi_le f _ (roundR_scale_valueOf r f f.hi ▸ roundR_mono r (scale_mono _ h.le))
  · exact sat_of_le_lo f _ (roundR_scale_valueOf r f f.lo ▸ roundR_mono r (scale_mono _ h.le))

/-- the checker run on the implementation's objects says exactly: codes in range and metadata as the format dictates. -/
theorem chk_iff (f : Fmt) (cx : Bool) (sc bi : ℚ) (nint : ℤ) (up lo pr : ℚ) (dt : String) (cs : List ℤ) :
    Chk.c02 f cx sc bi nint up lo pr dt cs = true ↔
      (∀ c ∈ cs, f.InRange c) ∧ nint = f.nint ∧ up = sc * valueOf f f.hi + bi ∧ lo = sc * valueOf f f.lo + bi ∧
      pr = sc * valueOf f 1 ∧ dt.toList = renderFxp f cx := by
  unfold Chk.c02 InRange
  simp only [Bool.and_eq_true, List.all_eq_true, decide_eq_true_eq]
  constructor
  · rintro ⟨⟨⟨⟨⟨h1, h2⟩, h3⟩, h4⟩, h5⟩, h6⟩; exact ⟨h1, h2, h3, h4, h5, h6⟩
  · rintro ⟨h1, h2, h3, h4, h5, h6⟩; exact ⟨⟨⟨⟨⟨h1, h2⟩, h3⟩, h4⟩, h5⟩, h6⟩

theorem chk_side_sound (f : Fmt) (v : ℚ) (c : ℤ) (h : Chk.c02side f v c = true) :
    (valueOf f f.hi < v → c = f.hi) ∧ (v < valueOf f f.lo → c = f.lo) ∧ f.InRange c := by
  unfold Chk.c02side at h
  simp only [Bool.and_eq_true, decide_eq_true_eq] at h
  obtain ⟨⟨h1, h2⟩, h3⟩ := h
  refine ⟨fun hv => ?_, fun hv => ?_, h3⟩
  · rw [if_pos hv] at h1; simpa using h1
  · rw [if_pos hv] at h2; simpa using h2

/-! non-vacuity -/
example : quantize ⟨true, 8, 0⟩ .trunc .saturate (2 ^ 1000) = 127 := by decide +kernel
example : quantize ⟨true, 8, 0⟩ .trunc .saturate (-(2 ^ 63)) = -128 := by decide +kernel
example : (runP [] [.store ⟨true, 4, 0⟩ .trunc .saturate [100, -3], .neg 0, .sum 1 .wrap]).length = 3 := by decide +kernel

/-! ### `resize`: the size attributes stay consistent whatever combination of arguments is used -/

/-- **n_int = n_word − n_frac − sign bit** after every successful `resize`, for every combination of `signed`, `n_word`,
`n_frac`, `n_int` and `dtype=` arguments and every previous state (consistent or not). -/
theorem resize_nint_consistent (old m : Meta) (a : ResizeArgs) (h : resizeMeta old a = some m) :
    m.nint = m.nword - m.nfrac - signBit m.signed := by
  -- wherever `resizeMeta` succeeds it returns a `storeSizes`, which recomputes `n_int`
  unfold resizeMeta at h
  split at h
  · split at h
    · cases h                    -- `dtype=` with another size argument
    · split at h
      · cases h                  -- the string does not parse
      · simp only [Option.some.injEq] at h; subst h; simp [storeSizes]
  · simp only [Option.some.injEq] at h; subst h; simp [storeSizes]

/-- **`resize(dtype=x.dtype)` reproduces x's format**, sign bit included, from any previous state — in particular when
the string flips the signedness of the object. -/
theorem resize_dtype_render (old : Meta) (f : Fmt) (cx : Bool) :
    resizeMeta old { dtype := some (renderFxp f cx) } = some f.meta := by
  unfold resizeMeta
  simp only [Option.isSome_none, Bool.or_self, Bool.false_eq_true, if_false]
  rw [C12.parse_render_fxp]
  simp [resolveNInt, storeSizes, Fmt.meta, Fmt.nint, signBit]

/-- all three of `signed`, `n_word`, `n_frac` given: they are what the object has afterwards. -/
theorem resize_positional (old : Meta) (s : Bool) (w f : ℤ) :
    resizeMeta old { signed := some s, nword := some w, nfrac := some f } = some ⟨s, w, f, w - f - signBit s⟩ := by
  simp [resizeMeta, resolveNInt, storeSizes]

/-- `resize(signed=s, n_int=i, n_frac=f)`: the word is `i + f + sign bit of s` and `n_int` is the `i` asked for. -/
theorem resize_nint_nfrac (old : Meta) (s : Bool) (i f : ℤ) :
    resizeMeta old { signed := some s, nint := some i, nfrac := some f } = some ⟨s, i + f + signBit s, f, i⟩ := by
  simp only [resizeMeta, resolveNInt, storeSizes, Option.getD_some, Option.some.injEq, Meta.mk.injEq, true_and]
  omega

/-- `resize(signed=s, n_word=w, n_int=i)`: the fraction is `w − i − sign bit of s` and `n_int` is the `i` asked for. -/
theorem resize_nword_nint (old : Meta) (s : Bool) (w i : ℤ) :
    resizeMeta old { signed := some s, nword := some w, nint := some i } = some ⟨s, w, w - i - signBit s, i⟩ := by
  simp only [resizeMeta, resolveNInt, storeSizes, Option.getD_some, Option.some.injEq, Meta.mk.injEq, true_and]
  omega

/-- `dtype=` excludes the other size arguments: given together with `signed=`, a `ValueError`. -/
theorem resize_dtype_exclusive (old : Meta) (str : List Char) (s : Bool) :
    resizeMeta old { dtype := some str, signed := some s } = none := by
  simp [resizeMeta]

/-- a sign-only resize keeps word and fraction and moves exactly one bit between sign and integer part. -/
theorem resize_sign_only (old : Meta) (s : Bool) :
    resizeMeta old { signed := some s } = some ⟨s, old.nword, old.nfrac, old.nword - old.nfrac - signBit s⟩ := by
  simp [resizeMeta, resolveNInt, storeSizes]

example : resizeMeta ⟨true, 16, 4, 11⟩ { dtype := some "fxp-u12/4".toList } = some ⟨false, 12, 4, 8⟩ := by decide +kernel
example : resizeMeta ⟨false, 8, 4, 4⟩ { dtype := some "S4.4".toList } = some ⟨true, 8, 4, 3⟩ := by decide +kernel

end Fxp.C02
