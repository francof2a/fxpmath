import FxpVerif.Model.Core
import Mathlib.Data.Rat.Floor
import Mathlib.Tactic.Linarith
import Mathlib.Tactic.Ring

/-! `scale`, the value of a code and the rounding rules, against Mathlib's `zpow`, `⌊·⌋`, `⌈·⌉`. For `around` everything rests on
`roundHalfEven_spec` and the order lemma `halfEven_le`. -/
namespace Fxp

theorem floor_eq (x : ℚ) : x.floor = ⌊x⌋ := rfl

theorem ceil_eq (x : ℚ) : x.ceil = ⌈x⌉ := by
  rw [Rat.ceil_eq_neg_floor_neg, floor_eq, Int.floor_neg, neg_neg]

theorem scale_eq (v : ℚ) (e : ℤ) : scale v e = v * (2:ℚ) ^ e := by
  unfold scale
  split
  · rw [Int.cast_pow, Int.cast_ofNat, ← zpow_natCast, Int.toNat_of_nonneg ‹_›]
  · rw [Int.cast_pow, Int.cast_ofNat, ← zpow_natCast, Int.toNat_of_nonneg (by omega), zpow_neg, div_inv_eq_mul]

theorem two_zpow_pos (e : ℤ) : (0:ℚ) < (2:ℚ) ^ e := zpow_pos (by norm_num) e

/-! ### `scale · e` is multiplication by `2^e`: linear, and exponents add -/

theorem scale_add (u v : ℚ) (e : ℤ) : scale (u + v) e = scale u e + scale v e := by simp only [scale_eq, add_mul]

theorem scale_sub (u v : ℚ) (e : ℤ) : scale (u - v) e = scale u e - scale v e := by simp only [scale_eq, sub_mul]

theorem scale_scale (v : ℚ) (a b : ℤ) : scale (scale v a) b = scale v (a + b) := by
  rw [scale_eq, scale_eq, scale_eq, mul_assoc, ← zpow_add₀ (by norm_num : (2:ℚ) ≠ 0)]

theorem scale_mul (u v : ℚ) (a b : ℤ) : scale (u * v) (a + b) = scale u a * scale v b := by
  rw [scale_eq, scale_eq, scale_eq, zpow_add₀ (by norm_num : (2:ℚ) ≠ 0)]; ring

theorem scale_mul_right (u v : ℚ) (e : ℤ) : scale (u * v) e = scale u e * v := by simp only [scale_eq]; ring

theorem scale_div_scale (u v : ℚ) (e : ℤ) : scale u e / scale v e = u / v := by
  rw [scale_eq, scale_eq, mul_div_mul_right _ _ (zpow_ne_zero _ (by norm_num))]

theorem scale_neg_natCast (v : ℚ) (n : ℕ) : scale v (-(n:ℤ)) = v / 2 ^ n := by
  rw [scale_eq, zpow_neg, zpow_natCast, div_eq_mul_inv]

theorem scale_zero (v : ℚ) : scale v 0 = v := by rw [scale_eq, zpow_zero, mul_one]

theorem scale_int_nonneg (a : ℤ) (e : ℤ) (h : 0 ≤ e) : scale (a:ℚ) e = ((a * 2 ^ e.toNat : ℤ) : ℚ) := by
  unfold scale; rw [if_pos h, Int.cast_mul]

theorem scale_neg (v : ℚ) (e : ℤ) : scale (-v) e = -scale v e := by simp only [scale_eq, neg_mul]

theorem abs_scale (v : ℚ) (e : ℤ) : |scale v e| = scale |v| e := by
  rw [scale_eq, scale_eq, abs_mul, abs_of_pos (two_zpow_pos e)]

theorem scale_neg_scale (v : ℚ) (e : ℤ) : scale (scale v (-e)) e = v := by
  rw [scale_scale, neg_add_cancel, scale_zero]

theorem scale_scale_neg (v : ℚ) (e : ℤ) : scale (scale v e) (-e) = v := by
  rw [scale_scale, add_neg_cancel, scale_zero]

theorem scale_mono (e : ℤ) {v w : ℚ} (h : v ≤ w) : scale v e ≤ scale w e := by
  rw [scale_eq, scale_eq]; exact mul_le_mul_of_nonneg_right h (le_of_lt (two_zpow_pos e))

theorem scale_lt (e : ℤ) {v w : ℚ} (h : v < w) : scale v e < scale w e := by
  rw [scale_eq, scale_eq]; exact mul_lt_mul_of_pos_right h (two_zpow_pos e)

/-! ### the value of a code -/

theorem valueOf_eq (f : Fmt) (c : ℤ) : valueOf f c = (c:ℚ) * (2:ℚ) ^ (-f.nfrac) := scale_eq _ _

theorem valueOf_eq_iff (f : Fmt) (c : ℤ) (v : ℚ) : valueOf f c = v ↔ (c:ℚ) = scale v f.nfrac :=
  ⟨fun h => by rw [← h, valueOf, scale_neg_scale], fun h => by rw [valueOf, h, scale_scale_neg]⟩

theorem scale_valueOf_self (f : Fmt) (c : ℤ) : scale (valueOf f c) f.nfrac = c := scale_neg_scale _ _

theorem scale_valueOf (f : Fmt) (c : ℤ) (e : ℤ) : scale (valueOf f c) e = scale (c:ℚ) (e - f.nfrac) := by
  unfold valueOf; rw [scale_scale, neg_add_eq_sub]

/-- the value as a code at any finer fraction length `F` (the comparisons of C16 align both sides so). -/
theorem value_aligned (f : Fmt) (c : ℤ) (F : ℤ) (h : f.nfrac ≤ F) :
    valueOf f c = ((c * 2 ^ (F - f.nfrac).toNat : ℤ) : ℚ) * (2:ℚ) ^ (-F) := by
  -- the aligned code is the value scaled by `F` (an integer, as `F` is finer); scale it back
  rw [← scale_int_nonneg _ _ (sub_nonneg.mpr h), ← scale_valueOf, ← scale_eq, scale_scale_neg]

theorem valueOf_neg (f : Fmt) (c : ℤ) : valueOf f (-c) = -valueOf f c := by
  unfold valueOf; rw [Int.cast_neg, scale_neg]

theorem valueOf_mul (x y : Fmt) (a b : ℤ) : valueOf x a * valueOf y b = scale ((a * b : ℤ) : ℚ) (-x.nfrac + -y.nfrac) := by
  rw [valueOf, valueOf, ← scale_mul, Int.cast_mul]

theorem valueOf_mono (f : Fmt) {a b : ℤ} (h : a ≤ b) : valueOf f a ≤ valueOf f b := scale_mono _ (Int.cast_le.mpr h)

theorem valueOf_le_iff (f : Fmt) (c : ℤ) (v : ℚ) : valueOf f c ≤ v ↔ (c:ℚ) ≤ scale v f.nfrac :=
  ⟨fun h => scale_valueOf_self f c ▸ scale_mono f.nfrac h, fun h => scale_scale_neg v f.nfrac ▸ scale_mono (-f.nfrac) h⟩

theorem le_valueOf_iff (f : Fmt) (c : ℤ) (v : ℚ) : v ≤ valueOf f c ↔ scale v f.nfrac ≤ (c:ℚ) :=
  ⟨fun h => scale_valueOf_self f c ▸ scale_mono f.nfrac h, fun h => scale_scale_neg v f.nfrac ▸ scale_mono (-f.nfrac) h⟩

theorem abs_valueOf_sub (f : Fmt) (q : ℤ) (v : ℚ) : |valueOf f q - v| = |(q:ℚ) - scale v f.nfrac| * 2 ^ (-f.nfrac) := by
  -- fold the right side into one `scale`, then push it through `|·|` and `−`
  rw [← scale_eq, ← abs_scale, scale_sub, scale_scale_neg]; rfl

/-! ### rounding -/

theorem roundR_floor (x : ℚ) : roundR .floor x = ⌊x⌋ := rfl
theorem roundR_ceil (x : ℚ) : roundR .ceil x = ⌈x⌉ := ceil_eq x
theorem roundR_trunc (x : ℚ) : roundR .trunc x = if x < 0 then ⌈x⌉ else ⌊x⌋ := by
  simp [roundR, ceil_eq, floor_eq]
theorem roundR_fix (x : ℚ) : roundR .fix x = roundR .trunc x := rfl

/-- `around` in Mathlib's spelling (`x.floor` is `⌊x⌋` by definition). -/
theorem roundHalfEven_eq (x : ℚ) : roundHalfEven x =
    if x - (⌊x⌋:ℚ) < 1/2 then ⌊x⌋ else if 1/2 < x - (⌊x⌋:ℚ) then ⌊x⌋ + 1 else if ⌊x⌋ % 2 = 0 then ⌊x⌋ else ⌊x⌋ + 1 := rfl

theorem roundHalfEven_of_lt (x : ℚ) (h : x - (⌊x⌋:ℚ) < 1/2) : roundHalfEven x = ⌊x⌋ := by
  rw [roundHalfEven_eq, if_pos h]

theorem roundHalfEven_of_gt (x : ℚ) (h : 1/2 < x - (⌊x⌋:ℚ)) : roundHalfEven x = ⌊x⌋ + 1 := by
  rw [roundHalfEven_eq, if_neg h.not_gt, if_pos h]

theorem roundHalfEven_of_tie (x : ℚ) (h : x - (⌊x⌋:ℚ) = 1/2) :
    roundHalfEven x = if ⌊x⌋ % 2 = 0 then ⌊x⌋ else ⌊x⌋ + 1 := by
  rw [roundHalfEven_eq, if_neg h.not_lt, if_neg h.not_gt]

theorem roundHalfEven_spec (x : ℚ) :
    |(roundHalfEven x : ℚ) - x| ≤ 1/2 ∧ (|(roundHalfEven x : ℚ) - x| = 1/2 → roundHalfEven x % 2 = 0) := by
  -- with `d` the fractional part of `x`, the floor is `d` away from `x` and the next integer `1 - d`
  have hA : |((⌊x⌋ : ℤ) : ℚ) - x| = x - ⌊x⌋ := by
    rw [abs_sub_comm, abs_of_nonneg (sub_nonneg.mpr (Int.floor_le x))]
  have hB : |((⌊x⌋ + 1 : ℤ) : ℚ) - x| = 1 - (x - ⌊x⌋) := by
    rw [Int.cast_add, Int.cast_one, abs_of_pos (sub_pos.mpr (Int.lt_floor_add_one x)), sub_sub_eq_add_sub, add_comm]
  rcases lt_trichotomy (x - (⌊x⌋:ℚ)) (1/2) with h | h | h
  · rw [roundHalfEven_of_lt x h, hA]
    exact ⟨h.le, fun e => absurd e h.ne⟩
  · rw [roundHalfEven_of_tie x h]
    split
    · rw [hA]; exact ⟨h.le, fun _ => ‹_›⟩
    · rw [hB, h]; exact ⟨by norm_num, fun _ => by omega⟩
  · have h' : 1 - (x - (⌊x⌋:ℚ)) < 1/2 := by linarith
    rw [roundHalfEven_of_gt x h, hB]
    exact ⟨h'.le, fun e => absurd e h'.ne⟩

/-- integers within one half of `x ≤ y`, even on ties, are ordered like `x` and `y`. -/
theorem halfEven_le {x y : ℚ} (h : x ≤ y) {p q : ℤ} (a1 : |(p:ℚ) - x| ≤ 1/2) (a2 : |(p:ℚ) - x| = 1/2 → p % 2 = 0)
    (b1 : |(q:ℚ) - y| ≤ 1/2) (b2 : |(q:ℚ) - y| = 1/2 → q % 2 = 0) : p ≤ q := by
  by_contra hlt
  have hpq : ((q + 1 : ℤ) : ℚ) ≤ p := Int.cast_le.mpr (by omega)
  rw [Int.cast_add, Int.cast_one] at hpq
  -- p - 1/2 ≤ x ≤ y ≤ q + 1/2 ≤ p - 1/2: both are ties, one unit apart
  have e1 : (p:ℚ) - x = 1/2 := le_antisymm (abs_le.mp a1).2 (by linarith [(abs_le.mp b1).1])
  have e2 : (q:ℚ) - y = -(1/2) := le_antisymm (by linarith [(abs_le.mp a1).2]) (abs_le.mp b1).1
  have hp := a2 (by rw [e1, abs_of_pos (by norm_num)])
  have hq := b2 (by rw [e2, abs_neg, abs_of_pos (by norm_num)])
  have : (p:ℚ) = ((q + 1 : ℤ) : ℚ) := by rw [Int.cast_add, Int.cast_one]; linarith
  rw [Int.cast_inj] at this
  omega

theorem roundHalfEven_unique (x : ℚ) (q : ℤ) (h1 : |(q:ℚ) - x| ≤ 1/2)
    (h2 : |(q:ℚ) - x| = 1/2 → q % 2 = 0) : q = roundHalfEven x :=
  have ⟨s1, s2⟩ := roundHalfEven_spec x
  le_antisymm (halfEven_le le_rfl h1 h2 s1 s2) (halfEven_le le_rfl s1 s2 h1 h2)

theorem roundHalfEven_mono {x y : ℚ} (h : x ≤ y) : roundHalfEven x ≤ roundHalfEven y :=
  halfEven_le h (roundHalfEven_spec x).1 (roundHalfEven_spec x).2 (roundHalfEven_spec y).1 (roundHalfEven_spec y).2

theorem roundHalfEven_add_int (x : ℚ) (t : ℤ) (ht : t % 2 = 0) :
    roundHalfEven (x + t) = roundHalfEven x + t := by
  obtain ⟨s1, s2⟩ := roundHalfEven_spec x
  have e : ((roundHalfEven x + t : ℤ) : ℚ) - (x + t) = (roundHalfEven x : ℚ) - x := by push_cast; ring
  refine (roundHalfEven_unique _ _ (e ▸ s1) fun h => ?_).symm
  have := s2 (e ▸ h)
  omega

theorem roundR_err_lt_one (r : Rounding) (x : ℚ) : |(roundR r x : ℚ) - x| < 1 := by
  -- the floor is the fractional part below `x`, the ceiling less than one above it
  have hf : |((⌊x⌋ : ℤ) : ℚ) - x| < 1 := by
    rw [abs_sub_comm, Int.self_sub_floor, abs_of_nonneg (Int.fract_nonneg x)]; exact Int.fract_lt_one x
  have hc : |((⌈x⌉ : ℤ) : ℚ) - x| < 1 := by
    rw [abs_of_nonneg (sub_nonneg.mpr (Int.le_ceil x))]; exact sub_lt_iff_lt_add'.mpr (Int.ceil_lt_add_one x)
  have ht : |(roundR .trunc x : ℚ) - x| < 1 := by rw [roundR_trunc]; split <;> assumption
  cases r with
  | floor => exact hf
  | ceil => rw [roundR_ceil]; exact hc
  | trunc | fix => exact ht
  | around => exact (roundHalfEven_spec x).1.trans_lt one_half_lt_one

theorem roundR_int (r : Rounding) (k : ℤ) : roundR r (k : ℚ) = k := by
  have ht : roundR .trunc (k : ℚ) = k := by rw [roundR_trunc, Int.ceil_intCast, Int.floor_intCast, ite_self]
  cases r with
  | floor => exact Int.floor_intCast (R := ℚ) k
  | ceil => rw [roundR_ceil]; exact Int.ceil_intCast k
  | trunc | fix => exact ht
  | around =>
    have h : (k:ℚ) - ⌊(k:ℚ)⌋ < 1/2 := by rw [Int.floor_intCast, sub_self]; exact one_half_pos
    exact (roundHalfEven_of_lt _ h).trans (Int.floor_intCast k)

theorem roundR_mono (r : Rounding) {x y : ℚ} (h : x ≤ y) : roundR r x ≤ roundR r y := by
  -- toward zero: `⌈·⌉` below zero and `⌊·⌋` from zero on, with `⌈x⌉ ≤ 0 ≤ ⌊y⌋` where the two meet
  have ht : roundR .trunc x ≤ roundR .trunc y := by
    rw [roundR_trunc, roundR_trunc]
    split <;> split
    · exact Int.ceil_le_ceil h
    · rename_i hx hy
      exact (Int.ceil_le.mpr (by exact_mod_cast hx.le)).trans (Int.floor_nonneg.mpr (not_lt.mp hy))
    · rename_i hx hy; exact absurd (h.trans_lt hy) hx
    · exact Int.floor_le_floor h
  cases r with
  | floor => exact Int.floor_le_floor h
  | ceil => rw [roundR_ceil, roundR_ceil]; exact Int.ceil_le_ceil h
  | trunc | fix => exact ht
  | around => exact roundHalfEven_mono h

/-- rounding commutes with adding an integer: an even one for `around`'s tie rule to be preserved, and for `trunc` / `fix` one
that does not move the input across zero (toward zero is `ceil` on one side and `floor` on the other). -/
theorem roundR_add_int (r : Rounding) (x : ℚ) (t : ℤ) (ht : r = .around → t % 2 = 0)
    (hs : (r = .trunc ∨ r = .fix) → (x < 0 ↔ x + t < 0)) :
    roundR r (x + t) = roundR r x + t := by
  have htrunc (hs : x < 0 ↔ x + t < 0) : roundR .trunc (x + t) = roundR .trunc x + t := by
    rw [roundR_trunc, roundR_trunc]
    by_cases hx : x < 0
    · rw [if_pos hx, if_pos (hs.mp hx)]; exact Int.ceil_add_intCast x t
    · rw [if_neg hx, if_neg (mt hs.mpr hx)]; exact Int.floor_add_intCast x t
  cases r with
  | around => exact roundHalfEven_add_int x t (ht rfl)
  | floor => exact Int.floor_add_intCast x t
  | ceil => rw [roundR_ceil, roundR_ceil]; exact Int.ceil_add_intCast x t
  | trunc => exact htrunc (hs (.inl rfl))
  | fix => exact htrunc (hs (.inr rfl))

/-! ### a value scaled and rounded -/

theorem valueOf_round_err (f : Fmt) (r : Rounding) (v : ℚ) : |valueOf f (roundR r (scale v f.nfrac)) - v| < 2 ^ (-f.nfrac) := by
  rw [abs_valueOf_sub]; exact mul_lt_of_lt_one_left (two_zpow_pos _) (roundR_err_lt_one r _)

theorem roundR_scale_valueOf (r : Rounding) (f : Fmt) (c : ℤ) : roundR r (scale (valueOf f c) f.nfrac) = c := by
  rw [scale_valueOf_self, roundR_int]

end Fxp
