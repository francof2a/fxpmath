import FxpVerif.Lemmas.Round
import FxpVerif.Lemmas.Overflow
/-! What the store pipeline does to a value that needs no rounding and no overflow action: nothing. -/
namespace Fxp

theorem quantize_eq_round (f : Fmt) (hw : 0 < f.nword) (r : Rounding) (o : Overflow) (v : ℚ)
    (h : f.InRange (roundR r (scale v f.nfrac))) : quantize f r o v = roundR r (scale v f.nfrac) :=
  ovf_of_inRange o f hw _ h

theorem quantize_intCast (f : Fmt) (hf : 0 ≤ f.nfrac) (r : Rounding) (o : Overflow) (v : ℤ) :
    quantize f r o (v:ℚ) = ovf o f (v * 2 ^ f.nfrac.toNat) := by
  unfold quantize; rw [scale_int_nonneg v _ hf, roundR_int]

/-- **idempotence**: a representable value is stored as its own code. -/
theorem quantize_valueOf (f : Fmt) (hw : 0 < f.nword) (r : Rounding) (o : Overflow) (c : ℤ) (h : f.InRange c) :
    quantize f r o (valueOf f c) = c := by
  unfold quantize
  rw [roundR_scale_valueOf, ovf_of_inRange o f hw c h]

end Fxp
