import FxpVerif.Model.Digits
import Mathlib.Tactic.Ring
import Mathlib.Data.List.Induction
/-! Digit lists (most significant first) of the string layer: `parseDigits` and `renderFixed` invert each other on `w` digits,
`natDigits` is the variable-width rendering, and digit characters are parsed back to their digits. -/
namespace Fxp

/-! ### parsing and fixed-width rendering -/

theorem parseDigits_append (b : Nat) (xs : List Nat) (d : Nat) :
    parseDigits b (xs ++ [d]) = parseDigits b xs * b + d := List.foldl_append ..

theorem parseDigits_cons (b d : Nat) (ds : List Nat) :
    parseDigits b (d :: ds) = d * b ^ ds.length + parseDigits b ds := by
  induction ds using List.reverseRecOn with
  | nil => simp [parseDigits]
  | append_singleton ds e ih =>
    rw [← List.cons_append, parseDigits_append, parseDigits_append, ih, List.length_append, List.length_singleton]
    ring

theorem parseDigits_replicate_zero (b k : Nat) (ds : List Nat) :
    parseDigits b (List.replicate k 0 ++ ds) = parseDigits b ds := by
  induction k with
  | zero => rfl
  | succ k ih => rw [List.replicate_succ, List.cons_append, parseDigits_cons, ih, Nat.zero_mul, Nat.zero_add]

theorem parseDigits_lt (b : Nat) (hb : 0 < b) (ds : List Nat) (h : ∀ d ∈ ds, d < b) :
    parseDigits b ds < b ^ ds.length := by
  induction ds using List.reverseRecOn with
  | nil => exact Nat.one_pos
  | append_singleton ds d ih =>
    rw [List.forall_mem_append, List.forall_mem_singleton] at h
    rw [parseDigits_append, List.length_append, List.length_singleton, pow_succ]
    -- `x·b + d < (x + 1)·b ≤ b^n·b`
    exact Nat.lt_of_lt_of_le (Nat.add_lt_add_left h.2 _) (Nat.succ_mul .. ▸ Nat.mul_le_mul_right b (ih h.1))

theorem length_renderFixed (b w k : Nat) : (renderFixed b w k).length = w := by
  induction w generalizing k with
  | zero => rfl
  | succ w ih => rw [renderFixed, List.length_append, ih, List.length_singleton]

theorem renderFixed_lt (b : Nat) (hb : 0 < b) (w k : Nat) : ∀ d ∈ renderFixed b w k, d < b := by
  induction w generalizing k with
  | zero => nofun
  | succ w ih => exact List.forall_mem_append.mpr ⟨ih _, List.forall_mem_singleton.mpr (Nat.mod_lt _ hb)⟩

theorem renderFixed_zero (b w : Nat) : renderFixed b w 0 = List.replicate w 0 := by
  induction w with
  | zero => rfl
  | succ w ih => rw [renderFixed, Nat.zero_div, ih, Nat.zero_mod, ← List.replicate_succ']

theorem renderFixed_succ_head (b w k : Nat) :
    renderFixed b (w + 1) k = (k / b ^ w % b) :: renderFixed b w (k % b ^ w) := by
  induction w generalizing k with
  | zero => rw [pow_zero, Nat.div_one, Nat.mod_one]; rfl
  | succ w ih =>
    -- both sides end in `k % b`; before it, the digits of `k / b` …
    rw [renderFixed, ih, List.cons_append, Nat.div_div_eq_div_mul, ← pow_succ']
    -- … of which `k % b^(w+1)` has the low `w`
    rw [renderFixed, pow_succ', Nat.mod_mul_right_div_self, Nat.mod_mul_right_mod]

theorem parse_renderFixed (b : Nat) (w k : Nat) :
    parseDigits b (renderFixed b w k) = k % b ^ w := by
  induction w generalizing k with
  | zero => simp [renderFixed, parseDigits, Nat.mod_one]
  | succ w ih =>
    simp only [renderFixed, parseDigits_append, ih]
    rw [pow_succ', Nat.mod_mul]
    ring

theorem parse_renderFixed_of_lt (b w k : Nat) (h : k < b ^ w) : parseDigits b (renderFixed b w k) = k := by
  rw [parse_renderFixed, Nat.mod_eq_of_lt h]

theorem render_parse (b : Nat) (hb : 0 < b) (ds : List Nat) (h : ∀ d ∈ ds, d < b) :
    renderFixed b ds.length (parseDigits b ds) = ds := by
  induction ds using List.reverseRecOn with
  | nil => rfl
  | append_singleton ds d ih =>
    rw [List.forall_mem_append, List.forall_mem_singleton] at h
    obtain ⟨e1, e2⟩ := (Nat.div_mod_unique (a := parseDigits b ds * b + d) hb).mpr ⟨by rw [Nat.add_comm, Nat.mul_comm], h.2⟩
    rw [List.length_append, List.length_singleton, renderFixed, parseDigits_append, e1, e2, ih h.1]

/-! ### variable-width rendering -/

theorem natDigitsAux_spec (b : Nat) (hb : 2 ≤ b) (fuel k : Nat) (hf : k < fuel) :
    parseDigits b (natDigitsAux b fuel k) = k ∧ (∀ d ∈ natDigitsAux b fuel k, d < b) ∧
    natDigitsAux b fuel k ≠ [] ∧ ∀ w, 1 ≤ w → k < b ^ w → (natDigitsAux b fuel k).length ≤ w := by
  induction fuel generalizing k with
  | zero => omega
  | succ fuel ih =>
    rw [natDigitsAux]
    by_cases h : k < b
    · rw [if_pos h]
      exact ⟨by simp [parseDigits], List.forall_mem_singleton.mpr h, List.cons_ne_nil _ _, fun w hw _ => hw⟩
    · rw [if_neg h]
      obtain ⟨h1, h2, _, h4⟩ := ih (k / b) (Nat.lt_of_lt_of_le (Nat.div_lt_self (by omega) hb) (Nat.le_of_lt_succ hf))
      refine ⟨by rw [parseDigits_append, h1]; exact Nat.div_add_mod' k b,
        List.forall_mem_append.mpr ⟨h2, List.forall_mem_singleton.mpr (Nat.mod_lt _ (by omega))⟩,
        List.append_ne_nil_of_right_ne_nil _ (List.cons_ne_nil _ _), fun w hw hkw => ?_⟩
      -- `b ≤ k < b^w` forces `w ≥ 2`, and then `k / b < b^(w-1)`
      rcases w with _ | _ | v
      · omega
      · rw [zero_add, pow_one] at hkw; omega
      · rw [List.length_append, List.length_singleton]
        exact Nat.succ_le_succ (h4 (v + 1) (by omega) (by rwa [Nat.div_lt_iff_lt_mul (by omega), ← pow_succ]))

theorem parse_natDigits (b : Nat) (hb : 2 ≤ b) (k : Nat) : parseDigits b (natDigits b k) = k :=
  (natDigitsAux_spec b hb (k + 1) k (by omega)).1

theorem natDigits_lt (b : Nat) (hb : 2 ≤ b) (k : Nat) : ∀ d ∈ natDigits b k, d < b :=
  (natDigitsAux_spec b hb (k + 1) k (by omega)).2.1

theorem natDigits_ne_nil (b : Nat) (hb : 2 ≤ b) (k : Nat) : natDigits b k ≠ [] :=
  (natDigitsAux_spec b hb (k + 1) k (by omega)).2.2.1

theorem natDigits_length_le (b : Nat) (hb : 2 ≤ b) (k w : Nat) (hw : 1 ≤ w) (hk : k < b ^ w) :
    (natDigits b k).length ≤ w :=
  (natDigitsAux_spec b hb (k + 1) k (by omega)).2.2.2 w hw hk

theorem pad_natDigits (b : Nat) (hb : 2 ≤ b) (k w : Nat) (hw : 1 ≤ w) (hk : k < b ^ w) :
    List.replicate (w - (natDigits b k).length) 0 ++ natDigits b k = renderFixed b w k := by
  -- the left side is `w` digits `< b` of value `k`, so rendering `k` at width `w` gives it back
  have := render_parse b (by omega) (List.replicate (w - (natDigits b k).length) 0 ++ natDigits b k)
    (List.forall_mem_append.mpr ⟨fun d hd => List.eq_of_mem_replicate hd ▸ by omega, natDigits_lt b hb k⟩)
  rwa [parseDigits_replicate_zero, parse_natDigits b hb, List.length_append, List.length_replicate,
    Nat.sub_add_cancel (natDigits_length_le b hb k w hw hk), eq_comm] at this

/-! ### digit characters -/

theorem charDigit_digitChar : ∀ d, d < 36 → charDigit (digitChar d) = some d := by decide +kernel

theorem isDecDigit_digitChar : ∀ d, d < 10 → isDecDigit (digitChar d) = true := by decide +kernel

theorem digitChar_ne_dot : ∀ d < 36, digitChar d ≠ '.' := by decide +kernel

theorem parseChars_digits (b : Nat) (hb : b ≤ 36) (ds : List Nat) (h : ∀ d ∈ ds, d < b) :
    parseChars b (ds.map digitChar) = some (parseDigits b ds) := by
  unfold parseChars parseDigits
  generalize 0 = acc  -- both folds, from any accumulator
  induction ds generalizing acc with
  | nil => rfl
  | cons d ds ih =>
    obtain ⟨hd, h⟩ := List.forall_mem_cons.mp h
    rw [List.map_cons, List.foldlM_cons, List.foldl_cons, charDigit_digitChar d (hd.trans_le hb)]
    show (if d < b then some (acc * b + d) else none).bind _ = _
    rw [if_pos hd]
    exact ih h _

/-- `\d+` is greedy, so the next character must not be a digit (`hr`). -/
theorem spanDec_digits (ds : List Nat) (h : ∀ d ∈ ds, d < 10) (rest : List Char)
    (hr : ∀ c, rest.head? = some c → isDecDigit c = false) :
    spanDec (ds.map digitChar ++ rest) = (ds.map digitChar, rest) := by
  induction ds with
  | nil =>
    cases rest with
    | nil => rfl
    | cons c cs => exact if_neg (Bool.eq_false_iff.mp (hr c rfl))
  | cons d ds ih =>
    obtain ⟨hd, h⟩ := List.forall_mem_cons.mp h
    rw [List.map_cons, List.cons_append, spanDec, if_pos (isDecDigit_digitChar d hd), ih h]

end Fxp
