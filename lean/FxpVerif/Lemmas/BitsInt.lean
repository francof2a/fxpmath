import Mathlib.Data.Int.Bitwise
import Mathlib.Tactic.Ring
/-! # Python's `&` and `|` on integers (two's complement, unbounded): masking is `mod`, or-ing `-2^n` is sign extension
`Int.land` / `Int.lor` are Mathlib's bitwise operations on ℤ; the two identities (`x & (2^n-1) = x mod 2^n`, `x | -2^n = x - 2^n`
for an `n`-bit pattern) are what makes the model's arithmetic `wrap` the same function as `utils.wrap` as written
(`C03.wrapBits_eq_wrap`). -/

namespace Fxp.BitsInt

theorem land_zero' (x : ℤ) : Int.land x 0 = 0 := by cases x <;> simp [Int.land, Nat.ldiff]

theorem two_pow_succ_sub_one (n : ℕ) : (2:ℤ) ^ (n + 1) - 1 = Int.bit true (2 ^ n - 1) := by
  rw [Int.bit_val, cond_true]; ring

theorem neg_two_pow_succ (n : ℕ) : -(2:ℤ) ^ (n + 1) = Int.bit false (-(2 ^ n)) := by
  rw [Int.bit_val, cond_false]; ring

theorem cond_bounds (b : Bool) : (0:ℤ) ≤ cond b 1 0 ∧ cond b 1 0 ≤ (1:ℤ) := by cases b <;> decide

theorem bit_emod (b : Bool) (m : ℤ) (n : ℕ) : Int.bit b m % 2 ^ (n + 1) = Int.bit b (m % 2 ^ n) := by
  have hb := cond_bounds b
  rw [Int.bit_val, Int.bit_val, pow_succ',
    show 2 * m + cond b 1 0 = (2 * (m % 2 ^ n) + cond b 1 0) + (2 * 2 ^ n) * (m / 2 ^ n) by
      conv_lhs => rw [← Int.emod_add_mul_ediv m (2 ^ n)]
      ring, Int.add_mul_emod_self_left]
  exact Int.emod_eq_of_lt (by omega) (by omega)

theorem land_mask (n : ℕ) : ∀ x : ℤ, Int.land x (2 ^ n - 1) = x % 2 ^ n := by
  induction n with
  | zero => intro x; simp [land_zero']
  | succ n ih =>
    intro x
    induction x using Int.bitCasesOn with | _ b m
    rw [two_pow_succ_sub_one, Int.land_bit, ih, Bool.and_true, bit_emod]

theorem lor_neg_pow (n : ℕ) : ∀ x : ℤ, 0 ≤ x → x < 2 ^ n → Int.lor x (-(2 ^ n)) = x - 2 ^ n := by
  induction n with
  | zero =>
    intro x h0 h1
    obtain rfl : x = 0 := by omega
    rw [show (-(2:ℤ) ^ 0) = Int.negSucc 0 by simp]; simp [Int.lor, Nat.ldiff]
  | succ n ih =>
    intro x
    induction x using Int.bitCasesOn with | _ b m
    -- `-2^(n+1) = 2·(-2^n) + 0`: the low bit stays `b`, the rest is the case of `n`
    have hb := cond_bounds b
    rw [neg_two_pow_succ, Int.lor_bit, Bool.or_false, Int.bit_val, Int.bit_val, pow_succ']
    intro h0 h1
    rw [ih m (by omega) (by omega)]; ring
end Fxp.BitsInt
