import FxpVerif.Model.Core
import Mathlib.Tactic.Ring
import Mathlib.Tactic.Positivity

/-! `sat` and `wrap` for arbitrary word length (no 64 anywhere).

Which hypothesis on the word: `sat` and `wrap` land in range in every format (`sat_inRange`, `inRange_wrap`, `ovf_inRange`). That an
in-range integer is determined by its residue needs `f.WF` (`inRange_eq_of_emod_eq`: a signed format without its sign bit has the
two codes −1 and 0, congruent modulo 1), and so does everything that rests on it; those lemmas (`wrap_unique`, `wrap_of_inRange`,
`ovf_of_inRange`) are stated with `0 < n_word`, which is what the property theorems have at hand. -/
namespace Fxp
open Fmt

/-- formats the library can construct: a signed format has at least the sign bit. -/
def Fmt.WF (f : Fmt) : Prop := f.signed = true → 0 < f.nword

theorem Fmt.WF.of_pos {f : Fmt} (h : 0 < f.nword) : f.WF := fun _ => h

theorem two_pow_pred (n : Nat) (hw : 0 < n) : (2:Int) ^ n = 2 * 2 ^ (n - 1) := (mul_pow_sub_one hw.ne' 2).symm

theorem lo_le_hi (f : Fmt) : f.lo ≤ f.hi := by
  unfold lo hi
  have h1 : (0:Int) < 2 ^ (f.nword - 1) := by positivity
  have h2 : (0:Int) < 2 ^ f.nword := by positivity
  cases f.signed <;> simp <;> omega

/-! ### saturate -/

theorem sat_inRange (f : Fmt) (k : Int) : f.InRange (sat f k) := by
  have := lo_le_hi f
  unfold sat InRange; omega

theorem sat_of_inRange (f : Fmt) (k : Int) (h : f.InRange k) : sat f k = k := by
  unfold sat; unfold InRange at h; omega

theorem sat_of_hi_le (f : Fmt) (k : Int) (h : f.hi ≤ k) : sat f k = f.hi := by
  have := lo_le_hi f
  unfold sat; omega

theorem sat_of_le_lo (f : Fmt) (k : Int) (h : k ≤ f.lo) : sat f k = f.lo := by
  unfold sat; omega

theorem sat_above (f : Fmt) (k : Int) (h : f.hi < k) : sat f k = f.hi := sat_of_hi_le f k h.le

theorem sat_below (f : Fmt) (k : Int) (h : k < f.lo) : sat f k = f.lo := sat_of_le_lo f k h.le

theorem sat_mono (f : Fmt) {a b : Int} (h : a ≤ b) : sat f a ≤ sat f b :=
  max_le_max_left _ (min_le_min_left _ h)

/-! ### wrap: it keeps the residue modulo `2^n_word` (`wrap_mod`) and depends on nothing else (`wrap_of_emod_eq`) -/

theorem inRange_wrap (f : Fmt) (k : Int) : f.InRange (wrap f k) := by
  have hm : (0:Int) < 2 ^ f.nword := by positivity
  have h1 := Int.emod_nonneg k hm.ne'
  have h2 := Int.emod_lt_of_pos k hm
  unfold wrap InRange lo hi
  cases hs : f.signed
  · exact ⟨h1, Int.le_sub_one_of_lt h2⟩
  · simp only [if_true]
    rcases Nat.eq_zero_or_pos f.nword with h0 | hw
    · -- a signed format without its sign bit: the range is `[-1, 0]` and every integer wraps to 0
      rw [h0] at h2 ⊢; split <;> omega
    · have hp := two_pow_pred f.nword hw
      split <;> omega

theorem wrap_inRange (f : Fmt) (hw : 0 < f.nword) (k : Int) : f.InRange (wrap f k) := inRange_wrap f k

theorem wrap_inRange_unsigned (f : Fmt) (hs : f.signed = false) (k : Int) : f.InRange (wrap f k) :=
  inRange_wrap f k

theorem wrap_mod (f : Fmt) (k : Int) : wrap f k % 2 ^ f.nword = k % 2 ^ f.nword := by
  unfold wrap
  simp only
  split
  · split
    · exact Int.emod_emod_of_dvd _ (dvd_refl _)
    · rw [Int.sub_emod_right, Int.emod_emod_of_dvd _ (dvd_refl _)]
  · exact Int.emod_emod_of_dvd _ (dvd_refl _)

theorem wrap_of_emod_eq (f : Fmt) {a b : Int} (h : a % 2 ^ f.nword = b % 2 ^ f.nword) : wrap f a = wrap f b := by
  unfold wrap; simp only [h]

theorem wrap_congr (f : Fmt) (k : Int) : (wrap f k - k) % (2 ^ f.nword) = 0 :=
  Int.emod_eq_emod_iff_emod_sub_eq_zero.mp (wrap_mod f k)

theorem hi_sub_lo_lt (f : Fmt) (hf : f.WF) : f.hi - f.lo < 2 ^ f.nword := by
  unfold lo hi
  cases hs : f.signed
  · simp
  · have := two_pow_pred f.nword (hf hs)
    simp only [if_true]; omega

theorem inRange_eq_of_emod_eq (f : Fmt) (hf : f.WF) {a b : Int}
    (ha : f.InRange a) (hb : f.InRange b) (h : a % 2 ^ f.nword = b % 2 ^ f.nword) : a = b := by
  have := hi_sub_lo_lt f hf
  have hd := Int.dvd_of_emod_eq_zero (Int.emod_eq_emod_iff_emod_sub_eq_zero.mp h)
  obtain ⟨a1, a2⟩ := ha
  obtain ⟨b1, b2⟩ := hb
  exact sub_eq_zero.mp (Int.eq_zero_of_abs_lt_dvd hd (abs_lt.mpr ⟨by omega, by omega⟩))

/-- uniqueness: an in-range value congruent to `k` is `wrap f k`. (The specifications write a congruence as
`(c - k) % m = 0`; the lemmas here compare residues, `c % m = k % m`.) -/
theorem wrap_unique (f : Fmt) (hw : 0 < f.nword) (k c : Int) (hc : f.InRange c)
    (hcong : (c - k) % (2 ^ f.nword) = 0) : c = wrap f k :=
  inRange_eq_of_emod_eq f (.of_pos hw) hc (inRange_wrap f k)
    ((Int.emod_eq_emod_iff_emod_sub_eq_zero.mpr hcong).trans (wrap_mod f k).symm)

theorem wrap_of_inRange (f : Fmt) (hw : 0 < f.nword) (k : Int) (h : f.InRange k) : wrap f k = k :=
  (inRange_eq_of_emod_eq f (.of_pos hw) h (inRange_wrap f k) (wrap_mod f k).symm).symm

theorem wrap_emod (f : Fmt) (k : Int) : wrap f (k % 2 ^ f.nword) = wrap f k :=
  wrap_of_emod_eq f (Int.emod_emod_of_dvd _ (dvd_refl _))

theorem wrap_add_mul (f : Fmt) (k t : Int) : wrap f (k + t * 2 ^ f.nword) = wrap f k :=
  wrap_of_emod_eq f (Int.add_mul_emod_self_right ..)

theorem sub_emod_zero_of (m a b c d : Int) (h1 : (a - c) % m = 0) (h2 : (b - d) % m = 0) :
    ((a + b) - (c + d)) % m = 0 := by
  have : a + b - (c + d) = (a - c) + (b - d) := by ring
  rw [this, Int.add_emod, h1, h2]; simp

/-- `wrap` of a number below `2^n_word` re-reads its top bit `s` as the sign. -/
theorem wrap_msb (f : Fmt) (hw : 0 < f.nword) (s : ℕ) (v : ℤ) (hs : s < 2) (h0 : 0 ≤ v) (hv : v < 2 ^ (f.nword - 1)) :
    wrap f (s * 2 ^ (f.nword - 1) + v) =
      if f.signed then (if s = 1 then -(2 ^ (f.nword - 1) - v) else v) else s * 2 ^ (f.nword - 1) + v := by
  have hp := two_pow_pred f.nword hw
  unfold wrap
  generalize (2:ℤ) ^ (f.nword - 1) = P at *
  generalize (2:ℤ) ^ f.nword = M at *
  subst hp
  rcases (by omega : s = 0 ∨ s = 1) with rfl | rfl
  · simp only [Nat.cast_zero, zero_mul, zero_add, Int.emod_eq_of_lt h0 (show v < 2 * P by omega), hv, if_true,
      zero_ne_one, if_false]
  · simp only [Nat.cast_one, one_mul, if_true]
    rw [Int.emod_eq_of_lt (by omega) (by omega), if_neg (show ¬ P + v < P by omega)]
    cases f.signed
    · rfl
    · simp only [if_true]; omega

/-- signed wrap is the balanced remainder. -/
theorem wrap_eq_bmod (f : Fmt) (hw : 0 < f.nword) (hs : f.signed = true) (k : Int) :
    wrap f k = Int.bmod k (2 ^ f.nword) := by
  -- `bmod k m` is `k % m`, less `m` from `(m + 1) / 2` on: for `m = 2^n_word` that is `2^(n_word-1)`, where `wrap` splits
  have hp := two_pow_pred f.nword hw
  unfold wrap Int.bmod
  simp only [hs, if_true, Nat.cast_pow, Nat.cast_ofNat]
  rw [show ((2:Int) ^ f.nword + 1) / 2 = 2 ^ (f.nword - 1) by omega]

/-! ### either overflow action -/

theorem ovf_inRange (o : Overflow) (f : Fmt) (k : Int) : f.InRange (ovf o f k) := by
  cases o
  · exact sat_inRange f k
  · exact inRange_wrap f k

theorem ovf_of_inRange (o : Overflow) (f : Fmt) (hw : 0 < f.nword) (k : Int) (h : f.InRange k) : ovf o f k = k := by
  cases o
  · exact sat_of_inRange f k h
  · exact wrap_of_inRange f hw k h

end Fxp
