import FxpVerif.Model.Arith
import FxpVerif.Lemmas.Round
import FxpVerif.Lemmas.Overflow
/-!
# The range calculus

Every "never overflows" statement (C07, C09, C14, C15) and every carrier bound (C19, `Gen/Tie`) is about `Fits`; the lemmas
here are its algebra.
The magnitude part `-2^m ≤ z < 2^m` does not mention the sign bit and the sign part is only "unsigned codes are non-negative",
so only the product (`mag_mul`, `Fits.mul`) splits on both sign bits.
-/
namespace Fxp
open Fmt

/-! ### two facts on powers of two and one on lists that the files above use throughout -/

theorem pow_mono2 {a b : ℕ} (h : a ≤ b) : (2:ℤ) ^ a ≤ 2 ^ b := pow_le_pow_right₀ (by norm_num) h

theorem one_le_two_pow (k : ℕ) : (1:ℤ) ≤ 2 ^ k := one_le_pow₀ (by norm_num)

theorem forall_mem_zipWith {α β γ} {g : α → β → γ} {P : γ → Prop} {as : List α} {bs : List β}
    (h : ∀ a ∈ as, ∀ b ∈ bs, P (g a b)) : ∀ p ∈ List.zipWith g as bs, P p := by
  intro p hp
  obtain ⟨i, hi, rfl⟩ := List.mem_iff_getElem.mp hp
  rw [List.getElem_zipWith]
  exact h _ (List.getElem_mem _) _ (List.getElem_mem _)

/-! ### `Fits` and `InRange`; the magnitude bits of a format -/

/-- number of magnitude bits. -/
def Fmt.mag (f : Fmt) : Nat := f.nword - (if f.signed then 1 else 0)

/-- `z` is a code of `m` magnitude bits, with a sign bit iff `s`. -/
structure Fits (s : Bool) (m : ℕ) (z : ℤ) : Prop where
  nonneg : s = false → 0 ≤ z
  lo : -2 ^ m ≤ z
  hi : z < 2 ^ m

theorem fits_iff {s : Bool} {m : ℕ} {z : ℤ} : Fits s m z ↔ (s = false → 0 ≤ z) ∧ -2 ^ m ≤ z ∧ z < 2 ^ m :=
  ⟨fun h => ⟨h.nonneg, h.lo, h.hi⟩, fun h => ⟨h.1, h.2.1, h.2.2⟩⟩

theorem inRange_iff_fits (f : Fmt) (z : ℤ) : f.InRange z ↔ Fits f.signed f.mag z := by
  rw [fits_iff]
  unfold InRange lo hi mag
  cases f.signed
  · simp only [Bool.false_eq_true, if_false, Nat.sub_zero, forall_const]; omega
  · simp only [if_true, Bool.true_eq_false, false_imp_iff, true_and]; omega

theorem Fmt.InRange.fits {f : Fmt} {z : ℤ} (h : f.InRange z) : Fits f.signed f.mag z := (inRange_iff_fits f z).mp h

theorem nword_eq_mag (f : Fmt) (hf : f.WF) : f.nword = f.mag + if f.signed then 1 else 0 := by
  unfold mag; split
  · have := hf ‹_›; omega
  · rfl

theorem nint_eq_mag (f : Fmt) (hf : f.WF) : f.nint = (f.mag : ℤ) - f.nfrac := by
  unfold nint
  rw [nword_eq_mag f hf]; push_cast; ring

/-- an operand aligned to a finer fraction length `F` has `n_int + F` magnitude bits. -/
theorem mag_aligned (z : Fmt) (hz : z.WF) {F : ℤ} (h : z.nfrac ≤ F) : ((z.mag + (F - z.nfrac).toNat : ℕ) : ℤ) = z.nint + F := by
  rw [nint_eq_mag z hz, Nat.cast_add, Int.toNat_of_nonneg (sub_nonneg.mpr h)]; ring

/-- the sign bit as the model's arithmetic has it (`bsig`, in ℤ) and as `mag` has it (in ℕ). -/
theorem bsig_eq_cast (s : Bool) : bsig s = ((if s then 1 else 0 : ℕ) : ℤ) := by unfold bsig; split <;> rfl

/-- `c` more word bits are `c` more magnitude bits (the fraction length plays no part). -/
theorem mag_add (f : Fmt) (hf : f.WF) (c : ℕ) (nf : ℤ) : (⟨f.signed, f.nword + c, nf⟩ : Fmt).mag = f.mag + c := by
  show f.nword + c - _ = f.nword - _ + c
  split
  · have := hf ‹_›; omega
  · omega

/-- the product word `n_word x + n_word y` has its sign bit. -/
theorem wf_mul (x y : Fmt) (hx : x.WF) (hy : y.WF) (nf : ℤ) : (⟨x.signed || y.signed, x.nword + y.nword, nf⟩ : Fmt).WF := fun h =>
  ((Bool.or_eq_true _ _).mp h).elim (fun h => Nat.add_pos_left (hx h) _) fun h => Nat.add_pos_right _ (hy h)

theorem mag_mul (x y : Fmt) (hx : x.WF) (hy : y.WF) (nf : ℤ) :
    (⟨x.signed || y.signed, x.nword + y.nword, nf⟩ : Fmt).mag = x.mag + y.mag + if x.signed && y.signed then 1 else 0 := by
  -- of the two sign bits one is the product's; the other, if there are two, is one more magnitude bit
  have e : (if x.signed then 1 else 0) + (if y.signed then 1 else 0) =
      (if x.signed || y.signed then 1 else 0) + if x.signed && y.signed then 1 else 0 := by
    cases x.signed <;> cases y.signed <;> rfl
  show x.nword + y.nword - (if (x.signed || y.signed) then 1 else 0) = _
  rw [nword_eq_mag x hx, nword_eq_mag y hy]
  omega

/-! ### the algebra -/

namespace Fits
variable {s s' : Bool} {m m' : ℕ} {a b z : ℤ}

theorem abs_le (h : Fits s m z) : |z| ≤ 2 ^ m := _root_.abs_le.mpr ⟨h.lo, h.hi.le⟩

theorem zero : Fits s m 0 := ⟨fun _ => le_rfl, neg_nonpos.mpr (by positivity), by positivity⟩

/-- `hs`: an unsigned target needs an unsigned source (callers pass `id` or `nofun`). -/
theorem mono (h : Fits s m z) (hs : s' = false → s = false) (hm : m ≤ m') : Fits s' m' z :=
  ⟨fun h' => h.nonneg (hs h'), (neg_le_neg (pow_mono2 hm)).trans h.lo, h.hi.trans_le (pow_mono2 hm)⟩

theorem of_nonneg (h : Fits s m z) (h0 : 0 ≤ z) : Fits s' m z := ⟨fun _ => h0, h.lo, h.hi⟩

theorem shl (h : Fits s m z) (k : ℕ) : Fits s (m + k) (z * 2 ^ k) := by
  have hk : (0:ℤ) < 2 ^ k := by positivity
  rw [fits_iff, pow_add, ← neg_mul]
  exact ⟨fun h' => mul_nonneg (h.nonneg h') hk.le, mul_le_mul_of_nonneg_right h.lo hk.le, mul_lt_mul_of_pos_right h.hi hk⟩

theorem add (ha : Fits s m a) (hb : Fits s' m' b) : Fits (s || s') (max m m' + 1) (a + b) := by
  have ha := ha.mono id (le_max_left m m')
  have hb := hb.mono id (le_max_right m m')
  rw [fits_iff, pow_succ, mul_two, neg_add, Bool.or_eq_false_iff]
  exact ⟨fun h => add_nonneg (ha.nonneg h.1) (hb.nonneg h.2), add_le_add ha.lo hb.lo, add_lt_add ha.hi hb.hi⟩

/-- signed whatever the operands; when the difference is non-negative, `of_nonneg` drops the sign bit. -/
theorem sub (ha : Fits s m a) (hb : Fits s' m' b) : Fits true (max m m' + 1) (a - b) := by
  have ha := ha.mono id (le_max_left m m')
  have hb := hb.mono id (le_max_right m m')
  rw [fits_iff, pow_succ, mul_two, neg_add, sub_eq_add_neg]
  exact ⟨nofun, add_le_add ha.lo (neg_le_neg hb.hi.le), add_lt_add_of_lt_of_le ha.hi (neg_le.mpr hb.lo)⟩

theorem mul (ha : Fits s m a) (hb : Fits s' m' b) :
    Fits (s || s') (m + m' + if s && s' then 1 else 0) (a * b) := by
  have hA : (0:ℤ) < 2 ^ m := by positivity
  have hB : (0:ℤ) < 2 ^ m' := by positivity
  have e : (2:ℤ) ^ (m + m') = 2 ^ m * 2 ^ m' := pow_add ..
  -- |a·b| ≤ 2^m·2^m' in every case; the upper bound is attained only by two negative factors
  obtain ⟨l, u⟩ := _root_.abs_le.mp (abs_mul a b ▸ mul_le_mul ha.abs_le hb.abs_le (abs_nonneg b) hA.le)
  rw [← e] at l u
  cases s
  · show Fits s' (m + m') (a * b)
    have h1 := mul_le_mul_of_nonneg_left hb.hi.le (ha.nonneg rfl)
    have h2 := mul_lt_mul_of_pos_right ha.hi hB
    exact ⟨fun h => mul_nonneg (ha.nonneg rfl) (hb.nonneg h), l, e ▸ h1.trans_lt h2⟩
  · cases s'
    · show Fits true (m + m') (a * b)
      have h1 := mul_le_mul_of_nonneg_right ha.hi.le (hb.nonneg rfl)
      have h2 := mul_lt_mul_of_pos_left hb.hi hA
      exact ⟨nofun, l, e ▸ h1.trans_lt h2⟩
    · show Fits true (m + m' + 1) (a * b)
      exact ⟨nofun, (neg_le_neg (pow_mono2 (Nat.le_succ _))).trans l, u.trans_lt (pow_lt_pow_right₀ one_lt_two (Nat.lt_succ_self _))⟩

theorem ediv_pow (h : Fits s m z) (k : ℕ) : Fits s m (z / 2 ^ k) := by
  have hk : (0:ℤ) < 2 ^ k := by positivity
  have hm : (0:ℤ) < 2 ^ m := by positivity
  refine ⟨fun hs => Int.ediv_nonneg (h.nonneg hs) hk.le, Int.le_ediv_of_mul_le hk ?_, ?_⟩
  · exact (neg_mul ..).trans_le ((neg_le_neg (le_mul_of_one_le_right hm.le (one_le_two_pow k))).trans h.lo)
  · rcases le_or_gt 0 z with h0 | h0
    · exact (Int.ediv_le_self _ h0).trans_lt h.hi
    · exact (Int.ediv_neg_of_neg_of_pos h0 hk).trans hm

theorem sum {cs : List ℤ} (h : ∀ c ∈ cs, Fits s m c) {c : ℕ} (hc : cs.length ≤ 2 ^ c) : Fits s (m + c) cs.sum := by
  -- `n` codes sum to between `n·(-2^m)` and `n·(2^m - 1)`, and `n ≤ 2^c`
  have lo := List.card_nsmul_le_sum cs _ fun x hx => (h x hx).lo
  have hi := List.sum_le_card_nsmul cs _ fun x hx => Int.le_sub_one_of_lt (h x hx).hi
  rw [nsmul_eq_mul] at lo hi
  have hc' : (cs.length : ℤ) ≤ 2 ^ c := by exact_mod_cast hc
  have hm := one_le_two_pow m
  rw [fits_iff, pow_add, mul_comm, ← mul_neg]
  exact ⟨fun hs => List.sum_nonneg fun x hx => (h x hx).nonneg hs,
    (mul_le_mul_of_nonpos_right hc' (neg_nonpos.mpr (zero_le_one.trans hm))).trans lo,
    (hi.trans (mul_le_mul_of_nonneg_right hc' (sub_nonneg.mpr hm))).trans_lt
      (mul_lt_mul_of_pos_left (sub_one_lt _) (by positivity))⟩

theorem prod {c : ℤ} (hc : Fits s m c) {cs : List ℤ} (h : ∀ d ∈ cs, Fits s m d) :
    Fits s ((cs.length + 1) * m + cs.length * if s then 1 else 0) (c * cs.prod) := by
  induction cs generalizing c with
  | nil => simpa using hc
  | cons d t ih =>
    have := hc.mul (ih (h d List.mem_cons_self) fun x hx => h x (List.mem_cons_of_mem _ hx))
    rw [Bool.or_self, Bool.and_self] at this
    rw [List.prod_cons, List.length_cons]
    convert this using 1
    ring

/-- the floor of `A·2^e / b` for a non-zero divisor. `hM`: `e` magnitude bits more than `A` (fewer for negative `e`), and one more
whenever the result is signed — needed for the most negative dividend over −1, and allotted by `optimalSize` to every signed
result. Of the divisor only its sign part is used (`m'` is free). -/
theorem floor_div {A : ℤ} (hA : Fits s m A) (hb : Fits s' m' b) (hb0 : b ≠ 0) (e : ℤ) {M : ℕ}
    (hM : (m:ℤ) + bsig (s || s') + e ≤ M) : Fits (s || s') M ⌊scale (A:ℚ) e / b⌋ := by
  rw [bsig_eq_cast, ← Nat.cast_add] at hM
  generalize hm₁ : (m + if s || s' then 1 else 0 : ℕ) = m₁ at hM
  have h1 : |A| < 2 ^ m₁ := by
    subst hm₁; split
    · exact hA.abs_le.trans_lt (pow_lt_pow_right₀ one_lt_two m.lt_succ_self)
    · rename_i hs
      rw [Bool.not_eq_true, Bool.or_eq_false_iff] at hs
      rw [abs_of_nonneg (hA.nonneg hs.1)]; exact hA.hi
  have hb1 : (1:ℚ) ≤ |(b:ℚ)| := by exact_mod_cast Int.one_le_abs hb0
  -- |A·2^e / b| ≤ |A|·2^e < 2^(m₁ + e) ≤ 2^M
  have hx : |scale (A:ℚ) e / b| < ((2 ^ M : ℤ) : ℚ) := by
    rw [scale_eq, abs_div, abs_mul, abs_of_pos (two_zpow_pos e), div_lt_iff₀ (zero_lt_one.trans_le hb1)]
    calc |(A:ℚ)| * 2 ^ e < 2 ^ (m₁:ℤ) * 2 ^ e := mul_lt_mul_of_pos_right (by exact_mod_cast h1) (two_zpow_pos e)
      _ = 2 ^ ((m₁:ℤ) + e) := (zpow_add₀ two_ne_zero ..).symm
      _ ≤ 2 ^ (M:ℤ) := zpow_le_zpow_right₀ one_le_two hM
      _ = ((2 ^ M : ℤ) : ℚ) := by rw [zpow_natCast, Int.cast_pow, Int.cast_ofNat]
      _ ≤ _ := le_mul_of_one_le_right (by positivity) hb1
  obtain ⟨l, u⟩ := abs_lt.mp hx
  refine ⟨fun hs => ?_, Int.le_floor.mpr l.le, Int.floor_lt.mpr u⟩
  obtain ⟨hs1, hs2⟩ := Bool.or_eq_false_iff.mp hs
  rw [scale_eq]
  exact Int.floor_nonneg.mpr (div_nonneg (mul_nonneg (by exact_mod_cast hA.nonneg hs1) (two_zpow_pos e).le)
    (by exact_mod_cast hb.nonneg hs2))

end Fits

/-- the difference of two shifted unsigned codes stays below `2^M`, `M` one more than the wider of the two. -/
theorem sub_bound_unsigned (mx my kx ky M : Nat) (a b : Int)
    (ha : 0 ≤ a ∧ a ≤ 2 ^ mx - 1) (hb : 0 ≤ b ∧ b ≤ 2 ^ my - 1)
    (hM : M = max (mx + kx) (my + ky) + 1) :
    a * 2 ^ kx - b * 2 ^ ky ≤ 2 ^ M - 1 := by
  have of_le {m : ℕ} {z : ℤ} (h : 0 ≤ z ∧ z ≤ 2 ^ m - 1) : Fits false m z :=
    ⟨fun _ => h.1, (neg_nonpos.mpr (by positivity)).trans h.1, Int.lt_of_le_sub_one h.2⟩
  exact Int.le_sub_one_of_lt (hM ▸ (((of_le ha).shl kx).sub ((of_le hb).shl ky)).hi)

/-! ### magnitudes only (what a machine carrier has to hold) -/

theorem Fmt.InRange.fits_nword {f : Fmt} {c : ℤ} (h : f.InRange c) : Fits true f.nword c :=
  h.fits.mono nofun (Nat.sub_le ..)

theorem abs_le_of_inRange {f : Fmt} {a : ℤ} (h : f.InRange a) : |a| ≤ 2 ^ f.nword := h.fits_nword.abs_le

theorem abs_mul_le_pow {a b : ℤ} {n k N : ℕ} (ha : |a| ≤ 2 ^ n) (hb : |b| ≤ 2 ^ k) (hN : n + k ≤ N) : |a * b| ≤ 2 ^ N := by
  rw [abs_mul]
  calc |a| * |b| ≤ 2 ^ n * 2 ^ k := mul_le_mul ha hb (abs_nonneg b) (by positivity)
    _ = 2 ^ (n + k) := (pow_add ..).symm
    _ ≤ 2 ^ N := pow_mono2 hN

theorem abs_shl_le {a : ℤ} {n k N : ℕ} (h : |a| ≤ 2 ^ n) (hN : n + k ≤ N) : |a * 2 ^ k| ≤ 2 ^ N :=
  abs_mul_le_pow h (abs_of_pos (by positivity : (0:ℤ) < 2 ^ k)).le hN

theorem abs_mul_le_of_inRange {x y : Fmt} {a b : ℤ} (ha : x.InRange a) (hb : y.InRange b) {N : ℕ} (hN : x.nword + y.nword ≤ N) :
    |a * b| ≤ 2 ^ N :=
  abs_mul_le_pow (abs_le_of_inRange ha) (abs_le_of_inRange hb) hN

theorem abs_sum_le {l : List ℤ} {B : ℤ} (h : ∀ x ∈ l, |x| ≤ B) : |l.sum| ≤ l.length * B := by
  rw [← nsmul_eq_mul, abs_le, ← neg_nsmul]
  exact ⟨List.card_nsmul_le_sum l _ fun x hx => (abs_le.mp (h x hx)).1,
    List.sum_le_card_nsmul l _ fun x hx => (abs_le.mp (h x hx)).2⟩

theorem abs_prod_le {l : List ℤ} {B : ℤ} (h : ∀ x ∈ l, |x| ≤ B) : |l.prod| ≤ B ^ l.length := by
  induction l with
  | nil => simp
  | cons x t ih =>
    rw [List.prod_cons, List.length_cons, abs_mul, pow_succ']
    exact mul_le_mul (h x List.mem_cons_self) (ih fun y hy => h y (List.mem_cons_of_mem _ hy)) (abs_nonneg _)
      ((abs_nonneg x).trans (h x List.mem_cons_self))

/-! ### formats by their magnitude bits -/

/-- the format with `m` magnitude bits. -/
def Fmt.ofMag (s : Bool) (m : ℕ) (nf : ℤ) : Fmt := ⟨s, m + if s then 1 else 0, nf⟩

theorem ofMag_mag (s : Bool) (m : ℕ) (nf : ℤ) : (ofMag s m nf).mag = m := by
  unfold ofMag mag; split <;> rfl

theorem ofMag_nword_pos (s : Bool) {m : ℕ} (nf : ℤ) (h : 0 < m) : 0 < (ofMag s m nf).nword := Nat.add_pos_left h _

theorem ofMag_WF (s : Bool) (m : ℕ) (nf : ℤ) : (ofMag s m nf).WF := by
  intro (h : s = true); simp [ofMag, h]

theorem inRange_ofMag {s : Bool} {m : ℕ} {nf z : ℤ} : (ofMag s m nf).InRange z ↔ Fits s m z := by
  rw [inRange_iff_fits, ofMag_mag]; rfl

/-- `Fxp(signed=, n_int=, n_frac=)` exists whenever its word `sign bit + n_int + n_frac` is not negative (positive when signed). -/
theorem mkFmt_of_nword (s : Bool) (ni nf : ℤ) (w : ℕ) (h : bsig s + ni + nf = w) (hw : s = true → 0 < w) :
    mkFmt s ni nf = some ⟨s, w, nf⟩ := by
  unfold mkFmt
  simp only [h, Int.toNat_natCast]
  rw [if_neg]
  rintro (h' | ⟨hs, h'⟩)
  · omega
  · have := hw hs; omega

theorem mkFmt_of_mag (s : Bool) (ni nf : ℤ) (m : ℕ) (h : ni + nf = m) : mkFmt s ni nf = some (ofMag s m nf) :=
  mkFmt_of_nword s ni nf _ (by rw [bsig_eq_cast]; push_cast; omega) (fun hs => by simp [hs])

end Fxp
