import FxpVerif.Model.Infer
import FxpVerif.Model.Chk
import Mathlib.Data.Rat.Floor
import Mathlib.Tactic.Ring
import Mathlib.Tactic.Positivity
/-! The two search loops of `set_best_sizes` (their invariants) and what the definitions around them compute. -/
namespace Fxp

def IsInt (x : ℚ) : Prop := ∃ z : ℤ, x = z

namespace IsInt
variable {x y : ℚ}

theorem add : IsInt x → IsInt y → IsInt (x + y)
  | ⟨a, ha⟩, ⟨b, hb⟩ => ⟨a + b, by rw [ha, hb, Int.cast_add]⟩

theorem neg : IsInt x → IsInt (-x)
  | ⟨a, ha⟩ => ⟨-a, by rw [ha, Int.cast_neg]⟩

theorem sub (hx : IsInt x) (hy : IsInt y) : IsInt (x - y) := sub_eq_add_neg x y ▸ hx.add hy.neg

theorem mul : IsInt x → IsInt y → IsInt (x * y)
  | ⟨a, ha⟩, ⟨b, hb⟩ => ⟨a * b, by rw [ha, hb, Int.cast_mul]⟩

theorem one_le_of_pos : IsInt x → 0 < x → 1 ≤ x := by
  rintro ⟨a, rfl⟩ h
  exact Int.cast_one_le_of_pos (Int.cast_pos.mp h)

end IsInt

theorem isInt_two_pow (n : ℕ) : IsInt (2 ^ n) := ⟨2 ^ n, by rw [Int.cast_pow, Int.cast_ofNat]⟩

theorem isInt_mul_pow {x : ℚ} {a b : ℕ} (h : a ≤ b) (hx : IsInt (x * 2 ^ a)) : IsInt (x * 2 ^ b) := by
  obtain ⟨c, rfl⟩ := Nat.exists_eq_add_of_le h
  rw [pow_add, ← mul_assoc]
  exact hx.mul (isInt_two_pow c)

/-! ### the fraction-bit loop -/

theorem half_pow_eq (n : ℕ) : half_pow n = 1 / (2:ℚ) ^ n := by unfold half_pow; push_cast; rfl

theorem half_pow_zero : half_pow 0 = 1 := by rw [half_pow_eq, pow_zero, div_one]

theorem half_pow_pos (n : ℕ) : 0 < half_pow n := by rw [half_pow_eq]; positivity

theorem half_pow_mul_pow (n : ℕ) : half_pow n * 2 ^ n = 1 := by
  rw [half_pow_eq, one_div, inv_mul_cancel₀ (by positivity)]

theorem half_pow_succ (n : ℕ) : half_pow n = 2 * half_pow (n + 1) := by
  rw [half_pow_eq, half_pow_eq]; ring

theorem half_pow_strictAnti : StrictAnti half_pow :=
  strictAnti_nat_of_succ_lt fun n => half_pow_succ n ▸ lt_two_mul_self (half_pow_pos (n + 1))

theorem isInt_half_pow_mul {a b : ℕ} (h : a ≤ b) : IsInt (half_pow a * 2 ^ b) :=
  isInt_mul_pow h ⟨1, by rw [half_pow_mul_pow, Int.cast_one]⟩

theorem grid_pos_ge {F : ℕ} {x : ℚ} (hg : IsInt (x * 2 ^ F)) (hx : 0 < x) : half_pow F ≤ x := by
  rw [half_pow_eq, div_le_iff₀ (by positivity)]
  exact hg.one_le_of_pos (by positivity)

/-- invariant of the fraction loop: the remainder `r` is what is left of `r0` below bit `nf`. -/
structure FracInv (F : ℕ) (r0 r : ℚ) (nf : ℕ) : Prop where
  nonneg : 0 ≤ r
  lt : r < half_pow nf
  cong : IsInt ((r0 - r) * 2 ^ nf)
  grid : IsInt (r * 2 ^ F)

namespace FracInv
variable {F nf : ℕ} {r0 r : ℚ} (inv : FracInv F r0 r nf)
include inv

/-- a positive remainder is a multiple of `2^-F` below `2^-nf`. -/
theorem lt_of_pos (hr : 0 < r) : nf < F :=
  half_pow_strictAnti.lt_iff_gt.mp ((grid_pos_ge inv.grid hr).trans_lt inv.lt)

/-- `r0·2^nf` is an integer plus `r·2^nf`, and `0 ≤ r·2^nf < 1`: the loop's test `0 < r` asks whether `nf` bits suffice. -/
theorem isInt_iff : IsInt (r0 * 2 ^ nf) ↔ ¬ 0 < r := by
  refine ⟨fun h hr => ?_, fun hr => ?_⟩
  · have hi := h.sub inv.cong
    rw [← sub_mul, sub_sub_cancel] at hi
    exact absurd inv.lt (not_lt.mpr (grid_pos_ge hi hr))
  · have := inv.cong
    rwa [le_antisymm (not_lt.mp hr) inv.nonneg, sub_zero] at this

/-- one pass through the loop body: the error term `|r - 2^-(nf+1)|`, a multiple of `2^-F` with `F ≤ 62`, stays above
`max_error = 2^-63` unless the new remainder is 0. (`ri` with its defining equation mirrors the `let` of `fracLoop`.) -/
theorem step (hF : F ≤ 62) (hr : 0 < r) {ri : ℚ} (hri : ri = r - half_pow (nf + 1)) :
    FracInv F r0 (if 0 ≤ ri then ri else r) (nf + 1) ∧
      (0 < (if 0 ≤ ri then ri else r) → maxError < (if ri < 0 then -ri else ri)) := by
  have hg : IsInt (ri * 2 ^ F) := by
    rw [hri, sub_mul]; exact inv.grid.sub (isInt_half_pow_mul (inv.lt_of_pos hr))
  have hc : IsInt ((r0 - r) * 2 ^ (nf + 1)) := isInt_mul_pow (Nat.le_succ nf) inv.cong
  have he : maxError < half_pow F := half_pow_strictAnti (Nat.lt_succ_of_le hF)
  by_cases hb : 0 ≤ ri
  · rw [if_pos hb, if_neg (not_lt.mpr hb)]
    refine ⟨⟨hb, ?_, ?_, hg⟩, fun h => he.trans_le (grid_pos_ge hg h)⟩
    · rw [hri, sub_lt_iff_lt_add, ← two_mul, ← half_pow_succ]; exact inv.lt
    · rw [hri, sub_sub_eq_add_sub, add_sub_right_comm, add_mul, half_pow_mul_pow]
      exact hc.add ⟨1, by rw [Int.cast_one]⟩
  · rw [if_neg hb, if_pos (not_le.mp hb)]
    refine ⟨⟨inv.nonneg, sub_neg.mp (hri ▸ not_le.mp hb), hc, inv.grid⟩, fun _ => he.trans_le ?_⟩
    exact grid_pos_ge (by rw [neg_mul]; exact hg.neg) (neg_pos.mpr (not_le.mp hb))

end FracInv

/-- **the fraction loop**: started from an invariant state with `e > max_error`, it returns a count `n`
such that `r0·2^n` is an integer and no smaller count `≥ nf` with a positive remainder does — for inputs on the
`2^-F` grid with `F ≤ 62` and `F ≤ maxNF`. -/
theorem fracLoop_spec (F : ℕ) (hF : F ≤ 62) (maxNF : ℤ) (hmax : (F : ℤ) ≤ maxNF) (r0 : ℚ) :
    ∀ (fuel nf : ℕ) (r e : ℚ), F < fuel + nf → FracInv F r0 r nf → (0 < r → maxError < e) →
      IsInt (r0 * 2 ^ (fracLoop fuel maxNF r nf e)) ∧ nf ≤ fracLoop fuel maxNF r nf e ∧
      (0 < r → ∀ i, nf ≤ i → i < fracLoop fuel maxNF r nf e → ¬ IsInt (r0 * 2 ^ i)) ∧
      (r = 0 → fracLoop fuel maxNF r nf e = nf) := by
  intro fuel
  induction fuel with
  | zero =>
    intro nf r e hfuel inv _
    -- no fuel left: `F < nf`, so the remainder is 0
    have hr : ¬ 0 < r := fun hr => by have := inv.lt_of_pos hr; omega
    exact ⟨inv.isInt_iff.mpr hr, le_rfl, fun h => absurd h hr, fun _ => rfl⟩
  | succ fuel ih =>
    intro nf r e hfuel inv he
    rw [fracLoop]
    by_cases hr : 0 < r
    · have hnf := inv.lt_of_pos hr
      rw [if_pos ⟨he hr, by omega, hr⟩]
      dsimp only
      obtain ⟨inv', he'⟩ := inv.step hF hr rfl
      obtain ⟨a1, a2, a3, a4⟩ := ih (nf + 1) _ _ (by omega) inv' he'
      refine ⟨a1, by omega, fun _ i hi1 hi2 => ?_, fun h => absurd h hr.ne'⟩
      rcases Nat.eq_or_lt_of_le hi1 with rfl | hlt
      · exact fun h => inv.isInt_iff.mp h hr
      · rcases inv'.nonneg.eq_or_lt with h0 | hpos
        · have := a4 h0.symm; omega
        · exact a3 hpos i hlt hi2
    · rw [if_neg fun h => hr h.2.2]
      exact ⟨inv.isInt_iff.mpr hr, le_rfl, fun h => absurd h hr, fun _ => rfl⟩

/-! ### the integer-bit loop -/

theorem fitsBits_iff (k : ℤ) (n : ℕ) : Chk.fitsBits k n = true ↔ -(2 ^ n : ℤ) ≤ k ∧ k < 2 ^ n := by
  unfold Chk.fitsBits
  split <;> rw [decide_eq_true_eq] <;> omega

theorem fitsBits_mono (k : ℤ) {a b : ℕ} (h : a ≤ b) (hf : Chk.fitsBits k a = true) : Chk.fitsBits k b = true := by
  rw [fitsBits_iff] at hf ⊢
  have hp : (2:ℤ) ^ a ≤ 2 ^ b := pow_le_pow_right₀ one_le_two h
  exact ⟨(neg_le_neg hp).trans hf.1, hf.2.trans_le hp⟩

theorem fitsBits_of_natAbs_le {k : ℤ} {n : ℕ} (h : k.natAbs ≤ n) : Chk.fitsBits k n = true := by
  rw [fitsBits_iff]
  have : (n : ℤ) < 2 ^ n := by exact_mod_cast Nat.lt_two_pow_self
  omega

theorem fitsBits_between {lo hi k : ℤ} {n : ℕ} (h1 : lo ≤ k) (h2 : k ≤ hi)
    (fl : Chk.fitsBits lo n = true) (fh : Chk.fitsBits hi n = true) : Chk.fitsBits k n = true := by
  rw [fitsBits_iff] at *
  exact ⟨fl.1.trans h1, h2.trans_lt fh.2⟩

/-- the loop's exit test is "fits in `n` magnitude bits": `k >> n` is `0` or `-1` according to the sign of `k`. -/
theorem msb_zero_iff (k : ℤ) (n : ℕ) :
    Int.shiftRight k n + (if k < 0 then 1 else 0) = 0 ↔ Chk.fitsBits k n = true := by
  -- `k / 2^n = q` says `q·2^n ≤ k < q·2^n + 2^n`; here `q` is `-1` or `0`
  rw [show Int.shiftRight k n = k / 2 ^ n from Int.shiftRight_eq_div_pow k n, fitsBits_iff,
    add_eq_zero_iff_eq_neg, Int.ediv_eq_iff_of_pos (by positivity)]
  split <;> omega

theorem intLoop_succ (fuel : ℕ) (vmax vmin : ℤ) (n : ℕ) :
    intLoop (fuel + 1) vmax vmin n =
      if Chk.fitsBits vmax n = true ∧ Chk.fitsBits vmin n = true then n else intLoop fuel vmax vmin (n + 1) := by
  rw [intLoop]
  simp only [msb_zero_iff]

/-- **the integer-bit loop** returns the least `m ≥ n` at which both extremes fit (given enough fuel). -/
theorem intLoop_spec (vmax vmin : ℤ) :
    ∀ (fuel n : ℕ), vmax.natAbs + vmin.natAbs < fuel + n →
      (Chk.fitsBits vmax (intLoop fuel vmax vmin n) = true ∧ Chk.fitsBits vmin (intLoop fuel vmax vmin n) = true) ∧
      n ≤ intLoop fuel vmax vmin n ∧
      ∀ j, n ≤ j → j < intLoop fuel vmax vmin n → ¬ (Chk.fitsBits vmax j = true ∧ Chk.fitsBits vmin j = true) := by
  intro fuel
  induction fuel with
  | zero =>
    intro n h
    rw [Nat.zero_add] at h
    rw [intLoop]
    exact ⟨⟨fitsBits_of_natAbs_le ((Nat.le_add_right _ _).trans h.le),
      fitsBits_of_natAbs_le ((Nat.le_add_left _ _).trans h.le)⟩, le_rfl, fun j h1 h2 => absurd h2 (not_lt.mpr h1)⟩
  | succ fuel ih =>
    intro n h
    rw [intLoop_succ]
    split
    · exact ⟨‹_›, le_rfl, fun j h1 h2 => absurd h2 (not_lt.mpr h1)⟩
    · obtain ⟨a1, a2, a3⟩ := ih (n + 1) (by omega)
      refine ⟨a1, by omega, fun j h1 h2 => ?_⟩
      rcases Nat.eq_or_lt_of_le h1 with rfl | hlt
      · assumption
      · exact a3 j hlt h2

/-! ### list extremes -/

theorem maxNat_le_iff (l : List ℕ) (n : ℕ) : maxNat l ≤ n ↔ ∀ x ∈ l, x ≤ n := by
  induction l with
  | nil => exact iff_of_true (Nat.zero_le n) (List.forall_mem_nil _)
  | cons a t ih => rw [maxNat, max_le_iff, ih, List.forall_mem_cons]

theorem listMaxR_spec : ∀ l : List ℚ, l ≠ [] → listMaxR l ∈ l ∧ ∀ x ∈ l, x ≤ listMaxR l
  | [a], _ => ⟨List.mem_singleton_self a, fun _ hx => (List.mem_singleton.mp hx).le⟩
  | a :: b :: t, _ => by
    obtain ⟨m1, m2⟩ := listMaxR_spec (b :: t) (List.cons_ne_nil b t)
    simp only [listMaxR]
    split
    · exact ⟨List.mem_cons_self, List.forall_mem_cons.mpr ⟨le_rfl, fun x hx => (m2 x hx).trans (le_of_lt ‹_›)⟩⟩
    · exact ⟨List.mem_cons_of_mem a m1, List.forall_mem_cons.mpr ⟨not_lt.mp ‹_›, m2⟩⟩

theorem listMinR_spec : ∀ l : List ℚ, l ≠ [] → listMinR l ∈ l ∧ ∀ x ∈ l, listMinR l ≤ x
  | [a], _ => ⟨List.mem_singleton_self a, fun _ hx => (List.mem_singleton.mp hx).ge⟩
  | a :: b :: t, _ => by
    obtain ⟨m1, m2⟩ := listMinR_spec (b :: t) (List.cons_ne_nil b t)
    simp only [listMinR]
    split
    · exact ⟨List.mem_cons_self, List.forall_mem_cons.mpr ⟨le_rfl, fun x hx => (le_of_lt ‹_›).trans (m2 x hx)⟩⟩
    · exact ⟨List.mem_cons_of_mem a m1, List.forall_mem_cons.mpr ⟨not_lt.mp ‹_›, m2⟩⟩

end Fxp
