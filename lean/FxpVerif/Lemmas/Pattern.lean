import FxpVerif.Model.Bits
import FxpVerif.Model.Strings
import FxpVerif.Lemmas.Overflow
import Mathlib.Tactic.Zify
/-! # The `n_word`-bit pattern of a code

`upat n c` (bitwise operators) and `pattern f c` (strings) are both `c % 2^n` (so is `urawM f c` for in-range codes,
`C16.urawM_eq_emod`); `resign` of a pattern is `wrap` of it. Everything about patterns is reduced here to the lemmas on `wrap`. -/
namespace Fxp

theorem upat_cast (n : ℕ) (c : ℤ) : ((upat n c : ℕ) : ℤ) = c % 2 ^ n :=
  Int.toNat_of_nonneg (Int.emod_nonneg c (by positivity))

theorem upat_lt (n : ℕ) (c : ℤ) : upat n c < 2 ^ n := by
  have := Int.emod_lt_of_pos c (by positivity : (0:ℤ) < 2 ^ n)
  rw [← upat_cast] at this; exact_mod_cast this

theorem upat_natCast {n u : ℕ} (h : u < 2 ^ n) : upat n u = u := by
  unfold upat
  rw [Int.emod_eq_of_lt (by positivity) (by exact_mod_cast h), Int.toNat_natCast]

theorem upat_wrap (f : Fmt) (k : ℤ) : upat f.nword (wrap f k) = upat f.nword k := by
  unfold upat; rw [wrap_mod]

theorem wrap_upat (f : Fmt) (c : ℤ) : wrap f (upat f.nword c) = wrap f c := by
  rw [upat_cast, wrap_emod]

theorem wrap_upat_of_inRange (f : Fmt) (hw : 0 < f.nword) (c : ℤ) (h : f.InRange c) : wrap f (upat f.nword c) = c :=
  (wrap_upat f c).trans (wrap_of_inRange f hw c h)

/-- `pattern f c` is `upat f.nword c` by definition. -/
theorem wrap_pattern (f : Fmt) (hw : 0 < f.nword) (c : ℤ) (h : f.InRange c) : wrap f (pattern f c) = c :=
  wrap_upat_of_inRange f hw c h

theorem inRange_eq_of_upat_eq (f : Fmt) (hw : 0 < f.nword) {a b : ℤ} (ha : f.InRange a) (hb : f.InRange b)
    (h : upat f.nword a = upat f.nword b) : a = b :=
  inRange_eq_of_emod_eq f (.of_pos hw) ha hb (by rw [← upat_cast, ← upat_cast, h])

theorem compl_emod {M : ℤ} (hM : 0 < M) (c : ℤ) : (-c - 1) % M = M - 1 - c % M := by
  have h0 := Int.emod_nonneg c hM.ne'
  have h1 := Int.emod_lt_of_pos c hM
  -- the right side lies in `[0, M)`, so it is its own residue; and there `c % M` is as good as `c`
  rw [← Int.emod_eq_of_lt (a := M - 1 - c % M) (b := M) (by omega) (by omega), Int.sub_emod_emod,
    show M - 1 - c = -c - 1 + M by ring, Int.add_emod_right]

/-- `-c - 1` is Python's `~c`. -/
theorem upat_compl (n : ℕ) (c : ℤ) : upat n (-c - 1) = 2 ^ n - 1 - upat n c := by
  have hu := upat_lt n c
  zify [show upat n c ≤ 2 ^ n - 1 by omega, Nat.one_le_two_pow (n := n)]
  rw [upat_cast, upat_cast]; exact compl_emod (by positivity) c

/-- `twos_complement_repr` is `wrap`, except that an unsigned pattern is not reduced. -/
theorem resign_eq_wrap (f : Fmt) (u : ℕ) (h : f.signed = true ∨ u < 2 ^ f.nword) : resign f u = wrap f u := by
  have c : 2 ^ (f.nword - 1) ≤ u % 2 ^ f.nword ↔ ¬ (u:ℤ) % 2 ^ f.nword < 2 ^ (f.nword - 1) := by
    rw [not_lt]; zify
  unfold resign wrap
  cases hs : f.signed
  · have hu : u < 2 ^ f.nword := h.resolve_left (by simp [hs])
    exact (Int.emod_eq_of_lt (Int.natCast_nonneg u) (by exact_mod_cast hu)).symm
  · simp only [true_and, if_true, c, ite_not, Int.natCast_mod, Nat.cast_pow, Nat.cast_ofNat]

end Fxp
