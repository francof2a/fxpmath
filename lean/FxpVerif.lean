import FxpVerif.Model.Core
import FxpVerif.Driver.Ops
import FxpVerif.Lemmas.Round
import FxpVerif.Lemmas.Overflow
import FxpVerif.Lemmas.Range
import FxpVerif.Lemmas.Store
import FxpVerif.Lemmas.Pattern
import FxpVerif.Props.C01
import FxpVerif.Props.C03
import FxpVerif.Props.C05
import FxpVerif.Props.C07
import FxpVerif.Props.C08
import FxpVerif.Props.C09
import FxpVerif.Props.C10
import FxpVerif.Props.C16
import FxpVerif.Props.C12
import FxpVerif.Props.C11
import FxpVerif.Props.C13
import FxpVerif.Props.C14
import FxpVerif.Props.C18
import FxpVerif.Props.C19
import FxpVerif.Props.C06
import FxpVerif.Props.C17
import FxpVerif.Props.C15
import FxpVerif.Props.C04
import FxpVerif.Props.C20
import FxpVerif.Props.C02
import FxpVerif.Gen.Sizing
import FxpVerif.Gen.Tie
